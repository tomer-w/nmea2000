/-
C13 — gateway clients recover from every connection fault and never stall the loop.
Model: the client LTS `N2k/Model/Client.lean`, tied to the four real clients by trace validation
(scripted sessions under virtual time with faults injected at every step).  The theorems hold for
every event list the LTS accepts.  PARTIAL w.r.t. the runtime: that nothing else inside a task step
blocks (CPU-bound decoding, blocking system calls) is outside the model.
Helpers in `N2k/Lemmas/Client13.lean`.
-/
import N2k.Lemmas.Client13
namespace N2k.Client

/-- **Back-off**: the delay before the next attempt grows, is capped at 10 s and is never zero -/
theorem C13_backoff (k : Nat) (hk : 1 ≤ k) :
    backoff k = min (500 * 2 ^ (k - 1)) 10000 ∧ 0 < backoff k ∧ backoff k ≤ 10000 ∧ backoff k ≤ backoff (k + 1) := by
  have h2 : 2 ^ (k - 1) ≤ 2 ^ (k + 1 - 1) := Nat.pow_le_pow_right (by omega) (by omega)
  exact ⟨rfl, Nat.lt_min.2 ⟨Nat.mul_pos (by decide) (Nat.two_pow_pos _), by decide⟩, Nat.min_le_right _ _,
    Nat.le_min.2 ⟨Nat.le_trans (Nat.min_le_left _ _) (Nat.mul_le_mul_left _ h2), Nat.min_le_right _ _⟩⟩

/-- the sleep after a failed attempt is exactly the back-off delay of that attempt number -/
theorem C13_retry_delay (s s' : CS) (ms : Nat) (hf : s.lastFailed = true) (hs : s.slept = false)
    (h : step s (.sleep ms) = some s') : ms = backoff s.tryNo := by
  rcases step_ite h with ⟨-, hg, -⟩ | ⟨hc, -, -⟩
  · exact of_decide_eq_true hg
  · simp [hf, hs] at hc

/-- a new receive task is only ever started when no receive task is alive -/
theorem C13_single_receiver_step (s s' : CS) (c : Nat) (h : step s (.recvStart c) = some s') : s.recv = none := by
  obtain ⟨hg, -⟩ := step_guard h
  simp only [Bool.and_eq_true, Option.isNone_iff_eq_none] at hg
  exact hg.1.1

/-- receive tasks alive after a trace: starts minus exits -/
def liveReceivers : List Ev → Int
  | [] => 0
  | .recvStart _ :: es => liveReceivers es + 1
  | .recvExit _ _ :: es => liveReceivers es - 1
  | _ :: es => liveReceivers es

/-- **Only one receive path is active at any time**, in every accepted trace -/
theorem C13_single_receiver (evs : List Ev) (s : CS) (h : runTrace init evs = some s) :
    liveReceivers evs = (if s.recv.isSome then 1 else 0) := by
  have key := runTrace_induct (R := fun s evs s' =>
      liveReceivers evs + (if s.recv.isSome then 1 else 0) = (if s'.recv.isSome then 1 else 0))
    (fun s => Int.zero_add _) (fun {s t s' e es} h1 ih => by
      cases e with
      | recvStart c =>
        rw [C13_single_receiver_step _ _ _ h1]
        obtain ⟨-, rfl⟩ := step_guard h1
        exact (Int.add_zero _).trans ih
      | recvExit c b =>
        obtain ⟨hg, rfl⟩ := step_guard h1
        simp only [Bool.and_eq_true, decide_eq_true_eq] at hg
        rw [hg.1]
        exact (Int.sub_add_cancel _ _).trans ((Int.add_zero _).symm.trans ih)
      | _ => exact (step_frame h1).recv rfl ▸ ih) h
  exact (Int.add_zero _).symm.trans key

/-- the recovery run: refused `k` times, then accepted -/
def recoveryTrace (k c : Nat) : List Ev :=
  [.connCall] ++ (List.range k).flatMap (fun i => [Ev.implStart, .implFail, .sleep (backoff (i + 1))]) ++
    [.implStart, .implOk c, .status .connected, .connReturn, .recvStart c]

/-- **Recovery, for every k**: from any state in which the link is down and no connect is running,
a connect that is refused k times and then accepted ends CONNECTED — reported once — with the
attempts separated by the back-off delays and a (single) receive task on the new connection -/
theorem C13_recovers (s : CS) (k : Nat) (hst : s.st = .disconnected) (ha : s.connActive = false)
    (hr : s.recv = none) (hp : s.implPending = false) :
    ∃ s', runTrace s (recoveryTrace k s.nextConn) = some s' ∧ s'.st = .connected ∧ s'.recv = some s.nextConn ∧
      s'.statusLog = s.statusLog ++ [.connected] ∧ s'.conn = some s.nextConn := by
  obtain ⟨t', h1, h2, b⟩ := ready_loop (s := { s with calls := s.calls + 1, prev := some .connCall }) k
    ⟨hst, Nat.succ_pos _, .inr ⟨ha, .inl rfl, rfl⟩⟩
  simp only [kept, Prod.mk.injEq] at b
  obtain ⟨k1, k2, k3, -⟩ := b
  obtain ⟨u, hu, c1, c2, c3, -, c5, -⟩ := ready_connects h2
  rw [k1] at hu c2
  refine ⟨{ u with recv := some s.nextConn, prev := some (.recvStart s.nextConn) }, ?_, c1, rfl,
    c3.trans (congrArg (· ++ _) k2), c2⟩
  rw [recoveryTrace, List.append_assoc, List.singleton_append, runTrace_cons]
  refine ⟨_, rfl, ?_⟩
  rw [runTrace_append, h1, Option.bind_some]
  refine (runTrace_append t' [_, _, _, _] [_]).trans ?_
  rw [hu]
  exact run_guard rfl (by simp [c1, c2, c5, k3, hr]) rfl

/-- DISCONNECTED is reported only after a fault, and not again until the link is back -/
theorem C13_disconnected_once (s s' : CS) (h : step s (.status .disconnected) = some s') :
    s.faults > 0 ∧ s.st = .connected ∧ step s' (.status .disconnected) = none := by
  obtain ⟨hg, rfl⟩ := step_guard h
  simp only [Bool.and_eq_true, decide_eq_true_eq] at hg
  obtain ⟨⟨h1, h2⟩, h3, -⟩ := hg
  refine ⟨h3, ?_, step_guard_none (by simp)⟩
  cases hs : s.st <;> simp_all

/-- **No spin**: an iteration of the receive loop that neither suspends nor consumes input nor leaves the loop is not a behaviour of the model -/
theorem C13_no_spin (s : CS) (c : Nat) : step s (.recvIter c false) = none :=
  step_guard_none (by simp)

/-- **One reconnect task serves all fault reports**: a reconnect task is only started when none is alive, so in every
accepted trace at most one is alive — however many senders report the same lost link -/
theorem C13_single_reconnect (evs : List Ev) (s : CS) (h : runTrace init evs = some s) : s.reconn ≤ 1 :=
  L13.runTrace_reconn_le (Nat.zero_le 1) h

theorem C13_single_reconnect_step (s s' : CS) (h : step s .reconnStart = some s') : s.reconn = 0 ∧ s'.reconn = 1 := by
  obtain ⟨hg, rfl⟩ := step_guard h
  simp only [Bool.and_eq_true, decide_eq_true_eq] at hg
  exact ⟨hg.1, rfl⟩

/-- the events since the latest start of a reconnect task (the whole trace if there is none) -/
def sinceReconnStart : List Ev → List Ev
  | [] => []
  | e :: es => if es.contains .reconnStart then sinceReconnStart es else (if e = .reconnStart then es else e :: es)

/-- `sinceReconnStart` is what follows the last `.reconnStart` -/
theorem sinceReconnStart_split (pre post : List Ev) (hp : Ev.reconnStart ∉ post) :
    sinceReconnStart (pre ++ .reconnStart :: post) = post := by
  induction pre with
  | nil => simp [sinceReconnStart, hp]
  | cons a pre ih => simp [sinceReconnStart, ih]

/-- **Never-zero delay on the reconnect path**: in every accepted trace, whenever the reconnect task calls connect() it has
waited at least 500 ms (the first back-off delay) since it was started -/
theorem C13_reconnect_waits (evs : List Ev) (s s' : CS) (h : runTrace init evs = some s) (hc : step s .reconnCall = some s') :
    ∃ ms, 500 ≤ ms ∧ .reconnSleep ms ∈ sinceReconnStart evs := by
  obtain ⟨h1, h2, -⟩ := step_reconnCall hc
  obtain ⟨pre, post, rfl, hp, hw⟩ := reconnInv_init h h1
  rw [sinceReconnStart_split pre post hp]
  exact hw h2

/-- … and a call uses up that wait: right after a connect() call of the reconnect task, another one is not a behaviour of the
model (every attempt inside a call is connect()'s own retry with its back-off delay; a further call needs a wait of its own,
`C13_reconnect_waits_each`) -/
theorem C13_reconnect_calls_once (s s' : CS) (h : step s .reconnCall = some s') : step s' .reconnCall = none := by
  obtain ⟨-, rfl⟩ := step_guard h
  exact step_guard_none (by simp)

/-- **Every connect() call of the reconnect task has its own wait**: in every accepted trace, between any two `reconnCall`s —
in particular between two calls of one reconnect task (no `reconnStart` in between) — lies a `reconnSleep` of at least 500 ms -/
theorem C13_reconnect_waits_each (evs : List Ev) (s : CS) (h : runTrace init evs = some s) (i j : Nat) (hij : i < j)
    (hi : evs[i]? = some .reconnCall) (hj : evs[j]? = some .reconnCall) :
    ∃ k ms, i < k ∧ k < j ∧ evs[k]? = some (.reconnSleep ms) ∧ 500 ≤ ms := by
  generalize init = s0 at h
  induction evs generalizing s0 i j with
  | nil => simp at hi
  | cons e es ih =>
    obtain ⟨t, h1, h2⟩ := runTrace_cons.1 h
    cases j with
    | zero => omega
    | succ j =>
      cases i with
      | zero =>
        obtain rfl : e = .reconnCall := by simpa using hi
        obtain ⟨k, ms, hk, he, hms⟩ := sleep_before_call (step_reconnCall h1).2.2.2 h2 hj
        exact ⟨k + 1, ms, Nat.succ_pos _, Nat.succ_lt_succ hk, he, hms⟩
      | succ i =>
        obtain ⟨k, ms, hk1, hk2, he, hms⟩ := ih i j (Nat.lt_of_succ_lt_succ hij) hi hj t h2
        exact ⟨k + 1, ms, Nat.succ_lt_succ hk1, Nat.succ_lt_succ hk2, he, hms⟩

/-- the one-step form: if one event separates two connect() calls of the reconnect task, that event is its wait -/
theorem C13_reconnect_waits_each_step (s s1 s2 : CS) (e : Ev) (h1 : step s .reconnCall = some s1) (h2 : step s1 e = some s2)
    (h3 : (step s2 .reconnCall).isSome) : ∃ ms, e = .reconnSleep ms ∧ 500 ≤ ms := by
  obtain ⟨s3, h3⟩ := Option.isSome_iff_exists.1 h3
  exact reconnSlept_rises h2 (step_reconnCall h1).2.2.2 (step_reconnCall h3).2.1

/-- a connect() that finds the client CONNECTED with nobody reading gives that link up before it connects again -/
theorem C13_abandon_is_fault (s s' : CS) (c : Nat) (h : step s (.abandon c) = some s') :
    s.st = .connected ∧ s.recv = none ∧ s.conn = some c ∧ c ∈ s'.faulted ∧ (∃ s'', step s' (.writerClose c) = some s'') := by
  obtain ⟨hg, rfl⟩ := step_guard h
  simp only [Bool.and_eq_true, decide_eq_true_eq, Option.isNone_iff_eq_none] at hg
  obtain ⟨⟨⟨⟨⟨h1, h2⟩, h3⟩, -⟩, -⟩, -⟩ := hg
  exact ⟨h1, h2, h3, List.mem_cons_self, _, step_of_guard (by simp [h3])⟩

/-- a reconnect task is only ever started after a fault -/
theorem C13_reconnect_after_fault (s s' : CS) (h : step s .reconnStart = some s') : s.faults > 0 := by
  obtain ⟨hg, -⟩ := step_guard h
  simp only [Bool.and_eq_true, decide_eq_true_eq] at hg
  exact hg.2

/-- what happens after a fault on the established link `c`: the link is shut, DISCONNECTED is reported, the receive task ends, one
reconnect task is started, waits 500 ms and calls connect(), which is refused `k` times and then accepted with the link `n` -/
def faultRecoveryTrace (c k n : Nat) : List Ev :=
  [.envEof c, .writerClose c, .status .disconnected, .recvExit c false, .reconnStart, .reconnSleep 500, .reconnCall] ++
    (List.range k).flatMap (fun i => [Ev.implStart, .implFail, .sleep (backoff (i + 1))]) ++
    [.implStart, .implOk n, .status .connected, .connReturn, .reconnEnd, .recvStart n]

/-- **Recovery after a fault on an established link, for every k**: from any CONNECTED state with its receive task alive, no connect
running and no reconnect task alive, the run above is accepted and ends CONNECTED on the new link — DISCONNECTED and CONNECTED
reported once each, in that order, one receive task on the new link, the old link shut, the reconnect task gone -/
theorem C13_recovers_after_fault (s : CS) (c k : Nat) (hst : s.st = .connected) (hc : s.conn = some c) (hr : s.recv = some c)
    (ha : s.connActive = false) (hp : s.implPending = false) (hre : s.reconn = 0) (hcf : s.closeFromRecv = false) :
    ∃ s', runTrace s (faultRecoveryTrace c k s.nextConn) = some s' ∧ s'.st = .connected ∧ s'.recv = some s.nextConn ∧
      s'.statusLog = s.statusLog ++ [.disconnected, .connected] ∧ s'.conn = some s.nextConn ∧ c ∈ s'.writerClosed ∧ s'.reconn = 0 := by
  obtain ⟨t, h1, h2, a1, a2, a3, a4, a5, a6⟩ := fault_prefix hst hc hr ha hre
  obtain ⟨t', h1', h2', b⟩ := ready_loop k h2
  simp only [kept, Prod.mk.injEq] at b
  obtain ⟨b1, b2, b3, b4, b5, b6⟩ := b
  obtain ⟨u, hu, c1, c2, c3, c4, c5, c6, c7, c8⟩ := ready_connects h2'
  rw [b1, a1] at hu c2
  refine ⟨{ u with reconn := 0, recv := some s.nextConn, prev := some (.recvStart s.nextConn) }, ?_, c1, rfl,
    (c3.trans (congrArg (· ++ _) (b2.trans a2))).trans (List.append_assoc ..), c2, (c8.trans b6).symm ▸ a6, rfl⟩
  rw [faultRecoveryTrace, List.append_assoc, runTrace_append, h1, Option.bind_some, runTrace_append, h1',
    Option.bind_some]
  refine (runTrace_append t' [_, _, _, _] [_, _]).trans ?_
  rw [hu]
  refine run_guard rfl ?_ (run_guard rfl ?_ rfl)
  · simp [c4, c6, c7, b4, b5, a4, a5]
  · simp [c1, c2, c5, b3, a3]

example : (runTrace init ([.connCall, .implStart, .implOk 1, .status .connected, .connReturn, .recvStart 1] ++ faultRecoveryTrace 1 2 2)).map
    (fun s => (s.st, s.recv, s.statusLog, s.reconn)) = some (.connected, some 2, [.connected, .disconnected, .connected], 0) := by decide +kernel

-- a second reconnect task while one is alive, and a reconnect that does not wait, are not behaviours of the model
example : runTrace init [.connCall, .implStart, .implOk 1, .status .connected, .connReturn, .recvStart 1, .envEof 1, .writerClose 1,
    .status .disconnected, .recvExit 1 false, .reconnStart, .sendCall 1, .writeFail 1 1, .reconnStart] = none := by decide +kernel
example : runTrace init [.connCall, .implStart, .implOk 1, .status .connected, .connReturn, .recvStart 1, .envEof 1, .writerClose 1,
    .status .disconnected, .recvExit 1 false, .reconnStart, .reconnCall] = none := by decide +kernel
example : (runTrace init [.connCall, .implStart, .implOk 1, .status .connected, .connReturn, .recvStart 1, .envEof 1, .writerClose 1,
    .status .disconnected, .recvExit 1 false, .reconnStart, .reconnSleep 500, .reconnCall, .implStart, .implOk 2, .status .connected,
    .connReturn, .reconnEnd, .recvStart 2]).map (fun s => (s.st, s.reconn, s.conn)) = some (.connected, 0, some 2) := by decide +kernel

-- the reconnect task calls connect() while another connect() holds the lock: the call returns at once, the task waits again and
-- calls again; a second call without a wait of its own is not a behaviour of the model
example : (runTrace init [.connCall, .implStart, .implOk 1, .status .connected, .connReturn, .recvStart 1, .envEof 1, .writerClose 1,
    .status .disconnected, .recvExit 1 false, .reconnStart, .connCall, .implStart, .reconnSleep 500, .reconnCall, .connReturn,
    .reconnSleep 500, .reconnCall, .connReturn, .implOk 2, .status .connected, .connReturn, .reconnEnd, .recvStart 2]).map
    (fun s => (s.st, s.reconn, s.conn, s.calls)) = some (.connected, 0, some 2, 0) := by decide +kernel
example : runTrace init [.connCall, .implStart, .implOk 1, .status .connected, .connReturn, .recvStart 1, .envEof 1, .writerClose 1,
    .status .disconnected, .recvExit 1 false, .reconnStart, .connCall, .implStart, .reconnSleep 500, .reconnCall, .connReturn,
    .reconnCall] = none := by decide +kernel
-- a connect() cancelled after CONNECTED was reported and before its receive task exists: the next connect() gives the link up
-- (fault, shut, DISCONNECTED) and only then connects; attempting while that link is still reported CONNECTED is not a behaviour
example : (runTrace init [.connCall, .implStart, .implOk 1, .status .connected, .connCancel, .connCall, .abandon 1, .writerClose 1,
    .status .disconnected, .implStart, .implOk 2, .status .connected, .connReturn, .recvStart 2]).map
    (fun s => (s.st, s.conn, s.recv, s.writerClosed, s.statusLog)) =
    some (.connected, some 2, some 2, [1], [.connected, .disconnected, .connected]) := by decide +kernel
example : runTrace init [.connCall, .implStart, .implOk 1, .status .connected, .connCancel, .connCall, .implStart] = none := by decide +kernel
example : runTrace init [.connCall, .implStart, .implOk 1, .status .connected, .connCancel, .connCall, .abandon 1, .implStart] = none := by
  decide +kernel

-- What the model does NOT promise: it admits the history in which the application cancels its own connect() after CONNECTED was reported
-- and before the receive task was started WITHOUT the call giving the link up (`connGiveUp`) — the state is then CONNECTED, nobody
-- reads, no reconnect task is alive, and nothing in the LTS forces a further step.  The real client did exactly that until the last
-- repair (findings `C13/connected-without-receiver/*`); since then its traces carry `connGiveUp c, writerClose c, status DISCONNECTED`
-- before `connCancel`, and the monitor `connected-without-receiver` watches for the old behaviour.  (Recovery is a liveness claim; the theorems above say
-- which recovery runs exist and which steps are impossible, the monitors `not-recovered` / `connected-without-receiver` and the replays
-- in `tools/repros/C13_known_*.py` exhibit the histories in which the real client stays there.)
example : (runTrace init [.connCall, .implStart, .implOk 1, .status .connected, .connReturn, .recvStart 1, .envEof 1, .writerClose 1,
    .status .disconnected, .recvExit 1 false, .connCall, .implStart, .implOk 2, .status .connected, .connCancel]).map
    (fun s => (s.st, s.recv, s.reconn, s.calls)) = some (.connected, none, 0, 0) := by decide +kernel

-- non-vacuity: three refusals then success from the initial state
example : (runTrace init (recoveryTrace 3 1)).map (fun s => (s.st, s.recv, s.statusLog)) = some (.connected, some 1, [.connected]) := by decide +kernel

end N2k.Client

/-
C15 — JSON round-trips to an equivalent, re-encodable message; dump is faithful.
Model: `N2k/Model/Json.lean` (the JSON data model of `to_json`/`from_json`; `orjson`'s text layer is
a trusted parameter exercised by the correspondence) and the dump log of `N2k/Model/Decoder.lean`.
Known finding (recorded, not repaired): NaN/±inf float values are serialised as `null`, so their value
is not preserved (no encodable definition has a FLOAT field, so re-encoding is not affected).
Helpers in `N2k/Lemmas/Json15.lean`.
-/
import N2k.Lemmas.Json15
namespace N2k.Json
open N2k N2k.Dec

/-- **Header and addressing survive**: PGN, id, description, source, destination, priority -/
theorem C15_header (pq ft : List String) (o : OutMsg) :
    let j := toJson pq ft o
    j.pgn = o.msg.pgn ∧ j.id = o.msg.id ∧ j.desc = o.msg.desc ∧ j.src = o.src ∧ j.dst = o.dst ∧ j.prio = o.prio ∧
    j.hashKey = o.hashKey := by
  exact ⟨rfl, rfl, rfl, rfl, rfl, rfl, rfl⟩

/-- **Fields survive**: same number and order of fields; per field the same id, and value / raw value
as their JSON views (binary as hex, dates and times as ISO text) -/
theorem C15_fields (pq ft : List String) (o : OutMsg) :
    (fromJson (toJson pq ft o)).map (fun f => (f.fmeta.id, f.value, f.raw)) =
      o.msg.fields.map (fun f => (f.fmeta.id, unview (view f.value), unview (view f.raw))) := by
  simp only [fromJson, toJson, List.map_map]
  rfl

def plain : PyVal → Prop
  | .none | .int _ | .flt _ | .str _ => True
  | _ => False

/-- the JSON view loses nothing of an integer, a finite float, (ASCII) text or an absent value -/
theorem C15_plain_exact (v : PyVal) (h : plain v) : unview (view v) = v := by
  cases v <;> first | rfl | exact h.elim

/-- what the encoder reads of a field, per encoder kind, is preserved by the JSON trip for the values a
decoder produces: numbers/reserved read `value` (plain), lookups read the integer `raw`, dates read an
integer `raw` or (both absent), times/durations read a numeric `raw` or (both absent) -/
def encodableShape (f : Field) : EncKind → Prop
  | .number _ _ _ _ => plain f.value
  | .reserved => plain f.value
  | .lookup _ => (∃ z, f.raw = .int z)
  | .date _ => (∃ z, f.raw = .int z) ∨ (f.raw = .none ∧ f.value = .none)
  | .time _ _ _ => (∃ z, f.raw = .int z) ∨ (∃ q, f.raw = .flt q) ∨ (f.raw = .none ∧ f.value = .none)
  | _ => False

def tripField (f : Field) : Field := { f with value := unview (view f.value), raw := unview (view f.raw) }

/-- **Re-encoding the parsed message gives the same bytes**: step by step the encoder computes the same integer -/
theorem C15_reencode_value (env : Env) (f : Field) (k : EncKind) (h : encodableShape f k) :
    encValue env (tripField f) k = encValue env f k := by
  apply encValue_congr
  cases k with
  | number _ _ _ _ => exact C15_plain_exact _ h
  | reserved => exact C15_plain_exact _ h
  | lookup e =>
    obtain ⟨z, hz⟩ := h
    exact ⟨C15_plain_exact _ (hz ▸ trivial), fun e => nomatch hz.symm.trans e⟩
  | date b =>
    rcases h with ⟨z, hz⟩ | ⟨hr, hv⟩
    · exact ⟨C15_plain_exact _ (hz ▸ trivial), fun e => nomatch hz.symm.trans e⟩
    · exact ⟨C15_plain_exact _ (hr ▸ trivial), fun _ => C15_plain_exact _ (hv ▸ trivial)⟩
  | time r b s =>
    rcases h with ⟨z, hz⟩ | ⟨q, hz⟩ | ⟨hr, hv⟩
    · exact ⟨C15_plain_exact _ (hz ▸ trivial), fun e => nomatch hz.symm.trans e⟩
    · exact ⟨C15_plain_exact _ (hz ▸ trivial), fun e => nomatch hz.symm.trans e⟩
    · exact ⟨C15_plain_exact _ (hr ▸ trivial), fun _ => C15_plain_exact _ (hv ▸ trivial)⟩
  | float => exact h.elim
  | unsupported _ => exact h.elim
  | unrecognised _ => exact h.elim

def visibleMsgs : List Out → List OutMsg
  | [] => []
  | .msg m :: os => m :: visibleMsgs os
  | _ :: os => visibleMsgs os

/-- the dump log: with dumping on, exactly the returned messages that match the dump filter (all if
the filter is empty), in order; with dumping off, nothing -/
theorem C15_dump (G : GenLayer) (cfg : Config) (h : List Input) :
    (run G cfg {} h).1.dump =
      if cfg.dumpOn then (visibleMsgs (run G cfg {} h).2).filter (fun o => dumpMatches cfg o) else [] := by
  rw [run_dump]
  show [] ++ _ = _
  rw [List.nil_append]
  generalize (run G cfg {} h).2 = l
  induction l with
  | nil => simp [visibleMsgs]
  | cons o os ih =>
    rw [List.flatMap_cons, ih]
    cases o with
    | msg m =>
      cases hd : cfg.dumpOn <;> simp [visibleMsgs, logged, hd, List.filter_cons]
      split <;> rfl
    | none => simp [visibleMsgs, logged]
    | raised => simp [visibleMsgs, logged]

-- non-vacuity
example : view (.bytes [0, 171]) = .str [48, 48, 97, 98] ∧ view (.date 19000) = .str ("2022-01-08".toList.map Char.toNat) := by decide +kernel

end N2k.Json

/-
C07 — the same CAN frame decodes identically through every input format.
All five front-ends hand a `Frame` (pgn, prio, src, dst, data in wire order) to the common decoding
core (`_decode`), so it suffices that the frame they extract is the same; what the core does with
it does not depend on the format (the core's model takes a `Frame` and nothing else).
Model: `N2k/Model/Wire.lean` (tie: T3).  Helpers, and the `"%d"` rendering `toDec` that `renderBasic` uses, in
`N2k/Lemmas/Wire06.lean`.
-/
import N2k.Props.C06
namespace N2k.Wire
open N2k.Straight

/-- a canboat plain-text line for a frame -/
def renderBasic (ts : List Char) (f : Frame) : List Char :=
  ts ++ [','] ++ toDec f.prio ++ [','] ++ toDec f.pgn ++ [','] ++ toDec f.src ++ [','] ++ toDec f.dst ++ [','] ++
    toDec f.data.length ++ [','] ++ List.intercalate [','] (f.data.map byteHex)

/-- lower-casing hex digits (the text formats accept either case) -/
def lowerHex (c : Char) : Char := if 'A' ≤ c ∧ c ≤ 'F' then Char.ofNat (c.toNat + 32) else c

/-- **The three frame-level formats extract the same frame** from the same identifier and data —
EByte binary, USB binary and Yacht Devices text (either direction marker) -/
theorem C07_frame_formats_agree (id : Nat) (data : Bytes) (hid : id < 2^32) (hd : 1 ≤ data.length)
    (h8 : data.length ≤ 8) (hb : ∀ b ∈ data, b < 256)
    (ts dir : List Char) (hts : validHms ts = true) (hsp : ' ' ∉ ts) (hne : ts ≠ [])
    (hdir : dir = ['R'] ∨ dir = ['T']) :
    decodeTcp (encodeEbyte id data) = .ok (frameOfId id data) ∧
    decodeUsb (encodeUsb id data) = .ok (frameOfId id data) ∧
    decodeYd (ts ++ [' '] ++ dir ++ [' '] ++ (encodeYd id data).dropLast.dropLast) = .ok (frameOfId id data) := by
  exact ⟨C06_ebyte_rt id data hid h8, C06_usb_rt id data hid h8,
    C06_yd_rt id data hid hd hb ts dir hts hsp hne hdir⟩

/-- Yacht Devices text is case-insensitive in its hex digits -/
theorem C07_yd_lowercase (id : Nat) (data : Bytes) (hid : id < 2^32) (hd : 1 ≤ data.length)
    (hb : ∀ b ∈ data, b < 256) (ts dir : List Char) (hts : validHms ts = true) (hsp : ' ' ∉ ts)
    (hne : ts ≠ []) (hdir : dir = ['R'] ∨ dir = ['T']) :
    decodeYd (ts ++ [' '] ++ dir ++ [' '] ++ ((encodeYd id data).dropLast.dropLast).map lowerHex) = .ok (frameOfId id data) := by
  exact yd_rt_map lowerHex rfl (by decide) id data hid hd hb ts dir hts hsp hne hdir

/-- **The two message-level formats extract the frame whose fields are the parsed identifier** — so a
frame given as identifier+data to a frame-level format and as (pgn, prio, src, dst)+data to the canboat
plain format or the Actisense format reaches the decoding core as the same `Frame`. -/
theorem C07_basic_agrees (id : Nat) (data : Bytes) (hd : 1 ≤ data.length) (h223 : data.length ≤ 223)
    (hb : ∀ b ∈ data, b < 256) (ts : List Char) (hts : validStamp ts = true) (hc : ',' ∉ ts) :
    decodeBasic (renderBasic ts (frameOfId id data)) = .ok (frameOfId id data) := by
  -- every field is far below 10^40, up to which the decimal renderer `toDec` is exact
  have r := N2k.C05_parse_ranges id
  have big : (262144 : Nat) < 10 ^ 40 := by decide
  have hd' (n : Nat) (h : n < 262144) := parseDec_toDec n (Nat.lt_trans h big)
  have hcm (n : Nat) : ',' ∉ toDec n := fun h => absurd (toDec_digits n _ h) (by decide)
  obtain ⟨b, bs, rfl⟩ := List.exists_cons_of_ne_nil (List.ne_nil_of_length_pos hd)
  have e : renderBasic ts (frameOfId id (b :: bs)) = [','].intercalate (ts :: toDec (extract_header id).2.2.2 ::
      toDec (extract_header id).1 :: toDec (extract_header id).2.1 :: toDec (extract_header id).2.2.1 ::
      toDec (b :: bs).length :: (b :: bs).map byteHex) := by
    simp only [renderBasic, frameOfId, List.map_cons, List.intercalate_cons_cons, List.append_assoc]
  have hne : ((b :: bs).map byteHex).isEmpty = false := rfl
  generalize b :: bs = data at *
  have hall : (data.all (· < 256)) = true := List.all_eq_true.2 fun x hx => decide_eq_true (hb x hx)
  rw [e, decodeBasic, splitOn_intercalate ',' _ (List.forall_mem_cons.2 ⟨hc, List.forall_mem_cons.2 ⟨hcm _,
    List.forall_mem_cons.2 ⟨hcm _, List.forall_mem_cons.2 ⟨hcm _, List.forall_mem_cons.2 ⟨hcm _,
    List.forall_mem_cons.2 ⟨hcm _, fun t ht => ?_⟩⟩⟩⟩⟩⟩) (List.cons_ne_nil _ _)]
  · simp only [hne, hts, hd' _ (Nat.lt_trans r.2.2.2 (by decide)), hd' _ r.1, hd' _ (Nat.lt_trans r.2.1 (by decide)),
      hd' _ (Nat.lt_trans r.2.2.1 (by decide)), hd' _ (Nat.lt_of_le_of_lt h223 (by decide)), ← List.map_take,
      List.take_length, allSome_byteHex data hb, hall, if_true, if_false, not_true_eq_false, Bool.false_eq_true]
    rfl
  · obtain ⟨b, _, rfl⟩ := List.mem_map.1 ht
    exact (allHex_byteHex b).not_mem rfl

theorem C07_actisense_agrees (id : Nat) (data : Bytes) (hb : ∀ b ∈ data, b < 256) :
    let f := frameOfId id data
    decodeActisense ("A000001.000 ".toList ++ encodeActisense f.prio f.dst f.src f.pgn data) = .ok f := by
  intro f
  have r := N2k.C05_parse_ranges id
  exact C06_actisense_rt f.prio f.dst f.src f.pgn data (Nat.lt_trans r.2.2.2 (by decide)) r.2.2.1 r.2.1
    (Nat.lt_trans r.1 (by decide)) hb

-- non-vacuity
example : decodeBasic (renderBasic "2024-01-01-00:00:00.000".toList (frameOfId 0x19F80123 [1, 0xAB]))
    = .ok (frameOfId 0x19F80123 [1, 0xAB]) := by decide +kernel
example : decodeYd ("12:00:01.5 T ".toList ++ ((encodeYd 0x19F80123 [1, 0xAB]).dropLast.dropLast).map lowerHex)
    = .ok (frameOfId 0x19F80123 [1, 0xAB]) := by decide +kernel

end N2k.Wire

/-
C16 — decoder instances are isolated and unharmed by bad input.
In the functional model instances cannot share state, so the PROVED part is: what a decoder returns
for a probe depends only on its configuration, the probe and the source identity — not on the rest
of the history (single-frame probes; complete fast-packet probes with a fresh counter), and inputs
that are filtered, unknown or rejected leave the state untouched.  The VALIDATED part is isolation
itself: the correspondence keeps several real decoders and encoders alive at once (constructed with
and without arguments), interleaves histories across them and compares each with its own model
instance.  Helpers in `N2k/Lemmas/Dec16.lean`.
-/
import N2k.Lemmas.Dec16
namespace N2k.Dec

/-- both states hold the same identity for address `a` -/
def sameIdentity (s1 s2 : State) (a : Nat) : Prop := lookupSrc s1.sources a = lookupSrc s2.sources a

/-- **Single-frame probe**: for a single-frame PGN the result depends only on the configuration, the
input and the identity of its source — it is the same after any history -/
theorem C16_single_frame_probe (G : GenLayer) (cfg : Config) (s1 s2 : State) (i : Input)
    (hk : i.combined = true ∨ G.isFast i.pgn = .single ∨ G.isFast i.pgn = .unknown ∨ G.isFast i.pgn = .raises)
    (hs : sameIdentity s1 s2 i.src) :
    (step G cfg s1 i).2 = (step G cfg s2 i).2 := by
  have hk' : i.combined = true ∨ G.isFast i.pgn ≠ .fast := by
    rcases hk with h | h | h | h
    · exact Or.inl h
    all_goals exact Or.inr (by rw [h]; decide)
  exact step_out_nonfast G cfg hk' hs

/-- frames of a fast PGN never touch the source map and touch only their own stream's record -/
theorem C16_fast_frame_local (G : GenLayer) (cfg : Config) (st : State) (i : Input)
    (hk : i.combined = false) (hf : G.isFast i.pgn = .fast)
    (hnc : ∀ d m, G.decode i.pgn d = some (.ok m) → m.pgn ≠ isoClaimPgn) (k : Fast.Key) (hne : k ≠ (i.pgn, i.src, i.dst)) :
    (step G cfg st i).1.sources = st.sources ∧ Fast.lookup (step G cfg st i).1.table k = Fast.lookup st.table k := by
  have _ := hk   -- not needed, nor is `hf`: this holds of every input
  have _ := hf
  refine ⟨?_, step_table_other G cfg st i k hne⟩
  rw [step_sources]
  exact core_sources_nonclaim cfg (fun p m _ => hnc _ m)

/-- **Single-frame traffic never touches a reassembly record** — whatever it is and whatever it does to the rest of the state: also
an address claim (which may replace the identity of its source), also an input that is filtered out, rejected or raises.  So
single-frame messages between the frames of a fast-packet message — claims with changing NAMEs from its source or its destination
included — are no loss for it (with `C16_fast_frame_local`: nor are frames of other streams) -/
theorem C16_single_frame_keeps_records (G : GenLayer) (cfg : Config) (st : State) (i : Input)
    (hk : i.combined = true ∨ G.isFast i.pgn ≠ .fast) :
    (step G cfg st i).1.table = st.table := by
  rw [step_table]
  rcases core_table G cfg st i with h | h
  · exact h
  · rw [h]
    rcases route_nonfast hk with h | ⟨b, h⟩ <;> rw [h]

/-- … and what a completed fast-packet message does after its last frame (decoding, address-claim handling, filters, dump) changes
no OTHER stream's record either: after any input, every record other than the input's own stream is what it was -/
theorem C16_other_records_untouched (G : GenLayer) (cfg : Config) (st : State) (i : Input) (k : Fast.Key)
    (hne : k ≠ (i.pgn, i.src, i.dst)) :
    Fast.lookup (step G cfg st i).1.table k = Fast.lookup st.table k :=
  step_table_other G cfg st i k hne

/-- **Ignored or rejected single-frame input is a no-op** on everything a later result can depend on:
reassembly table and source map are unchanged unless the input was a decodable address claim -/
theorem C16_rejected_is_noop (G : GenLayer) (cfg : Config) (st : State) (i : Input)
    (hk : i.combined = true ∨ G.isFast i.pgn ≠ .fast)
    (hr : (step G cfg st i).2 = .raised ∨ (step G cfg st i).2 = .none)
    (hnc : ∀ m, G.decode i.pgn (leNat i.data) = some (.ok m) → m.pgn ≠ isoClaimPgn) :
    (step G cfg st i).1.table = st.table ∧ (step G cfg st i).1.sources = st.sources := by
  have _ := hr   -- not needed: the state is untouched whatever is returned
  refine ⟨C16_single_frame_keeps_records G cfg st i hk, ?_⟩
  rw [step_sources]
  refine core_sources_nonclaim cfg (fun p m hp => ?_)
  rcases route_nonfast hk with h | ⟨b, h⟩
  · rw [h] at hp
    cases hp
    exact hnc m
  · rw [h] at hp
    cases hp

/-- the inputs that carry the frames of one fast-packet message, in order -/
def framesInputs (pgn prio src dst : Nat) (w : Bool) (frames : List (List Nat)) : List Input :=
  frames.map (fun f => { pgn := pgn, prio := prio, src := src, dst := dst, data := f, combined := false, inWindow := w })

/-- **Fast-packet probe**: a complete fast-packet message whose sequence counter differs from the
stream's current record decodes — at its last frame, nothing before — to exactly what the
pre-assembled payload decodes to, after ANY history (any state `st`), as long as the source's
identity is the same. This is also the fast-packet clause of C07 (frame by frame = pre-assembled). -/
theorem C16_fast_probe (G : GenLayer) (cfg : Config) (st : State) (pgn prio src dst seq : Nat) (w : Bool) (P : List Nat)
    (hf : G.isFast pgn = .fast) (hne : pgn ≠ isoClaimPgn)
    (hnc : ∀ d m, G.decode pgn d = some (.ok m) → m.pgn ≠ isoClaimPgn)
    (hs : seq < 8) (hP : P.length ≤ 223)
    (h0 : ∀ x, Fast.lookup st.table (pgn, src, dst) = some x → x.seq ≠ seq) :
    let ins := framesInputs pgn prio src dst w (Fast.frames seq P)
    let combinedIn : Input := { pgn := pgn, prio := prio, src := src, dst := dst, data := P, combined := true, inWindow := w }
    let outs := (run G cfg st ins).2
    outs.dropLast.all (· = Out.none) = true ∧
    outs.getLast? = some (step G cfg st combinedIn).2 := by
  intro ins combinedIn outs
  have _ := hne   -- not needed, nor is `hnc`: no frame before the last reaches the per-PGN decoder
  have _ := hnc
  exact fast_probe G cfg st combinedIn seq P hf hs hP (Fast.startsNew_of_seq_ne _ seq _ h0)

/-! ### the whole-history form: rejected and ignored inputs can be removed from a history -/

/-- **What is returned never depends on the dump log**, and neither do the parts of the state a later result depends on -/
theorem C16_step_sim (G : GenLayer) (cfg : Config) (s1 s2 : State) (i : Input) (h : Sim s1 s2) :
    (step G cfg s1 i).2 = (step G cfg s2 i).2 ∧ Sim (step G cfg s1 i).1 (step G cfg s2 i).1 :=
  step_sim G cfg s1 s2 i h

/-- **Rejected and ignored inputs never change what is returned later** (the statement's second sentence, for whole histories): remove
from ANY history any set of inputs that were rejected or ignored where they stood, start from any state with the same table and source
map (e.g. a different dump log) — the decoder returns, at every remaining position, exactly what it returned in the full history -/
theorem C16_garbage_removal (G : GenLayer) (cfg : Config) (st st' : State) (is : List Input) (ks : List Bool)
    (hl : ks.length = is.length) (hs : Sim st st') (hd : DropsOk G cfg st is ks) :
    (run G cfg st' (pick ks is)).2 = pick ks (run G cfg st is).2 :=
  garbage_removal G cfg st st' is ks hl hs hd

/-- the inputs `C16_rejected_is_noop` speaks about satisfy the condition of `DropsOk` -/
theorem C16_rejected_drops_ok (G : GenLayer) (cfg : Config) (st : State) (i : Input)
    (hk : i.combined = true ∨ G.isFast i.pgn ≠ .fast)
    (hr : (step G cfg st i).2 = .raised ∨ (step G cfg st i).2 = .none)
    (hnc : ∀ m, G.decode i.pgn (leNat i.data) = some (.ok m) → m.pgn ≠ isoClaimPgn) :
    ((step G cfg st i).2 = .raised ∨ (step G cfg st i).2 = .none) ∧
      (step G cfg st i).1.table = st.table ∧ (step G cfg st i).1.sources = st.sources :=
  ⟨hr, C16_rejected_is_noop G cfg st i hk hr hnc⟩

/-- **Decoding the same history twice gives the same results**, whatever was written to the dump in between -/
theorem C16_replay (G : GenLayer) (cfg : Config) (st st' : State) (is : List Input) (hs : Sim st st') :
    (run G cfg st is).2 = (run G cfg st' is).2 :=
  run_sim G cfg st st' is hs

/-- non-vacuity of the mask -/
example : pick [true, false, true] [1, 2, 3] = [1, 3] := by decide

/-- a small generated layer: PGN 1 is single-frame and its decoder raises; nothing else is known -/
def exG : GenLayer := { isFast := fun p => if p = 1 then .single else .unknown, decode := fun _ _ => some .raised }
def exCfg : Config := {
  excludeNums := [], excludeIds := [], includeNums := [], includeIds := [], excludeManu := [], includeManu := [],
  units := [], dumpOn := false, dumpNums := [], dumpIds := [], buildMap := false, isoClaimFilter := false }
def exIn (pgn : Nat) : Input := { pgn := pgn, prio := 0, src := 0, dst := 255, data := [], combined := false, inWindow := false }

/-- non-vacuity of `DropsOk`: the middle input (rejected: its decoder raises) may be dropped -/
theorem exDropsOk : DropsOk exG exCfg {} [exIn 2, exIn 1, exIn 2] [true, false, true] :=
  ⟨fun h => Bool.noConfusion h, fun _ => ⟨Or.inl rfl, rfl, rfl⟩, fun h => Bool.noConfusion h, trivial⟩

/-- … and `C16_garbage_removal` applies to it: without the rejected input, started with some other dump log, the same two results -/
example (d : List OutMsg) : (run exG exCfg { dump := d } [exIn 2, exIn 2]).2 = [.none, .none] :=
  C16_garbage_removal exG exCfg {} { dump := d } [exIn 2, exIn 1, exIn 2] [true, false, true] rfl ⟨rfl, rfl⟩ exDropsOk

example : (run exG exCfg {} [exIn 2, exIn 1, exIn 2]).2 = [.none, .raised, .none] := rfl

end N2k.Dec

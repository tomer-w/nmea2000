/-
C11 — messages carry the identity of their source's latest address claim.
Model: `N2k/Model/Decoder.lean` (tie: T3).  Helpers in `N2k/Lemmas/Dec11.lean`.
-/
import N2k.Lemmas.Dec11
namespace N2k.Dec

/-- a claim from one address never changes another address's identity -/
theorem C11_claim_updates_only_src (G : GenLayer) (cfg : Config) (st : State) (i : Input) (a : Nat)
    (ha : a ≠ i.src) : lookupSrc (step G cfg st i).1.sources a = lookupSrc st.sources a := by
  rw [step_sources]
  rcases core_cases G cfg st i with ⟨h, _⟩ | ⟨_, _, _, _, new, _, _, _, _, hc⟩
  · rw [h]
  · rw [hc]
    exact lookupSrc_store_ne _ _ _ new ha

/-- only address claims change the source map at all -/
theorem C11_only_claims_update (G : GenLayer) (cfg : Config) (st : State) (i : Input)
    (hG : ∀ pgn d m, G.decode pgn d = some (.ok m) → m.pgn = pgn) (hne : i.pgn ≠ isoClaimPgn) :
    (step G cfg st i).1.sources = st.sources := by
  rw [step_sources]
  exact core_sources_nonclaim cfg (fun p m _ hd => by rw [hG _ _ _ hd]; exact hne)

/-- **Identity**: every returned message carries exactly the identity the source map holds for its
source address right after the step (the latest claim's identity, or none if it never claimed) -/
theorem C11_identity (G : GenLayer) (hG : ∀ pgn d m, G.decode pgn d = some (.ok m) → m.pgn = pgn)
    (cfg : Config) (st : State) (i : Input) (o : OutMsg)
    (h : (step G cfg st i).2 = .msg o) :
    o.src = i.src ∧ o.iso = lookupSrc (step G cfg st i).1.sources i.src := by
  obtain ⟨iso, p, m, m', iso1, new, hp, hd, hc, hs, _, rfl⟩ := step_msg h
  refine ⟨rfl, ?_⟩
  rw [hs]
  by_cases hm : m.pgn = isoClaimPgn
  · exact (lookupSrc_store_claim hm hc).symm
  · rw [claimId_nonclaim hm] at hc
    cases hc
    have hne : i.pgn ≠ isoClaimPgn := fun hi => hm ((hG _ _ _ hd).trans hi)
    exact (preOf_nonclaim hne hp).1

/-- the identity stored by a claim is decoded from that claim (or is the stored one with the same NAME);
the NAME is the first 64 bits of the payload -/
theorem C11_claim_identity (G : GenLayer) (cfg : Config) (st : State) (i : Input) (m : Msg)
    (hp : i.pgn = isoClaimPgn) (hk : G.isFast isoClaimPgn = .single)
    (hd : G.decode i.pgn (leNat i.data) = some (.ok m)) (hm : m.pgn = isoClaimPgn) (n : IsoName)
    (hn : mkIsoName m (leNat i.data % 18446744073709551616) = some n) :
    ∃ n', lookupSrc (step G cfg st i).1.sources i.src = some n' ∧ n'.name = leNat i.data % 18446744073709551616 ∧
      (n' = n ∨ lookupSrc st.sources i.src = some n') := by
  obtain ⟨r, hc⟩ : ∃ r, claimId (lookupSrc st.sources i.src) m (leNat i.data % 18446744073709551616) none = some r := by
    unfold claimId
    rw [if_pos hm, hn]
    split
    · split <;> exact ⟨_, rfl⟩
    · exact ⟨_, rfl⟩
  have hs : (step G cfg st i).1.sources = store st.sources i.src r.2 := by
    rw [step_sources, core, preOf_claim cfg st hp, route_single (Or.inr (hp ▸ hk))]
    simp only [decoded, decodeId, hd, hc]
  obtain ⟨n', _, e3, e4⟩ := claimId_claim hm hc
  refine ⟨n', by rw [hs, lookupSrc_store_claim hm hc]; assumption, e3, ?_⟩
  rcases e4 with ⟨_, h⟩ | ⟨h, _⟩
  · exact Or.inr h
  · exact Or.inl (Option.some.inj (hn.symm.trans h)).symm

/-- **Manufacturer lists**: once a source has claimed, a non-claim message from it is returned only
if the claimed manufacturer passes the exclude/include lists -/
theorem C11_manufacturer_filter (G : GenLayer) (cfg : Config) (st : State) (i : Input) (o : OutMsg) (n : IsoName)
    (hne : i.pgn ≠ isoClaimPgn) (hs : lookupSrc st.sources i.src = some n)
    (h : (step G cfg st i).2 = .msg o) : manuPasses cfg n = true := by
  obtain ⟨iso, _, _, _, _, _, hp, _⟩ := step_msg h
  obtain ⟨e, hpass⟩ := preOf_nonclaim hne hp
  exact hpass n (e.trans hs)

/-- an unknown manufacturer (no name for the code) passes no include list -/
theorem C11_unknown_manufacturer (cfg : Config) (n : IsoName) (hn : n.manufacturer = none)
    (hi : cfg.includeManu ≠ []) : manuPasses cfg n = false := by
  simp [manuPasses, hn, hi]

/-- **Discovery window**: with network mapping on, nothing from an unclaimed source is returned during the window -/
theorem C11_discovery (G : GenLayer) (cfg : Config) (st : State) (i : Input)
    (hb : cfg.buildMap = true) (hw : i.inWindow = true) (hne : i.pgn ≠ isoClaimPgn)
    (hs : lookupSrc st.sources i.src = none) : step G cfg st i = (st, .none) :=
  step_filtered (by simp [preOf, hne, hs, hb, hw])

/-- **No leak, for every history**: whatever the order of claims and data, every non-claim message
returned from a source that has an identity at that moment passes the manufacturer lists -/
theorem C11_no_leak (G : GenLayer) (hG : ∀ pgn d m, G.decode pgn d = some (.ok m) → m.pgn = pgn)
    (cfg : Config) (st : State) (h : List Input) (k : Nat) (i : Input) (o : OutMsg)
    (hi : h[k]? = some i) (ho : (run G cfg st h).2[k]? = some (.msg o)) (hne : i.pgn ≠ isoClaimPgn)
    (n : IsoName) (hn : o.iso = some n) : manuPasses cfg n = true := by
  obtain ⟨st', ho⟩ := run_out_at G cfg h st k hi ho
  obtain ⟨iso, p, m, m', iso1, new, hp, hd, hc, _, _, rfl⟩ := step_msg ho.symm
  rw [claimId_nonclaim (by rw [hG _ _ _ hd]; exact hne)] at hc
  cases hc
  exact (preOf_nonclaim hne hp).2 n hn

/-- **The identity's numbers are the bits of the claim's NAME**: unique number = bits 0..20, device instance =
bits 32..39, system instance = bits 56..59 — every bit pattern is data (an all-ones sub-field is not "absent") -/
theorem C11_identity_bits (m : Msg) (name : Nat) (n : IsoName) (h : mkIsoName m name = some n) :
    n.name = name ∧ n.uniqueNumber = ((name % 2 ^ 21 : Nat) : Int) ∧ n.deviceInstance = ((name / 2 ^ 32 % 256 : Nat) : Int) ∧
    n.systemInstance = ((name / 2 ^ 56 % 16 : Nat) : Int) :=
  mkIsoName_bits h

-- non-vacuity: instance byte 15, unique number 2097151, system instance 15 survive
example : (2097151 + 15 * 2 ^ 32 + 15 * 2 ^ 56) / 2 ^ 32 % 256 = 15 ∧ (2097151 + 15 * 2 ^ 32 + 15 * 2 ^ 56) % 2 ^ 21 = 2097151 := by decide

end N2k.Dec

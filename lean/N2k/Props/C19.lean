/-
C19 — send() writes the encoder's packets contiguously; bad messages are harmless.
Model: the client LTS (send lock, write, drain, failures; tie: trace validation with concurrent
sends and drain() suspending per script).  PARTIAL w.r.t. the runtime as C13.
Helpers in `N2k/Lemmas/Client19.lean`; `sids` and `contiguous` are defined at its head.
-/
import N2k.Lemmas.Client19
namespace N2k.Client

/-- a write is only possible for the send that holds the send lock (or takes it when free) -/
theorem C19_lock_exclusive (s s' : CS) (c sid idx : Nat) (h : step s (.write c sid idx) = some s') :
    (s.lockHolder = none ∨ s.lockHolder = some sid) ∧ s'.lockHolder = some sid ∧ idx = nextIdx s.sendNext sid := by
  obtain ⟨hg, rfl⟩ := step_guard h
  simp only [Bool.and_eq_true, Bool.or_eq_true, decide_eq_true_eq, Option.isNone_iff_eq_none] at hg
  exact ⟨hg.1.1.1.1.2, rfl, hg.1.1.1.2⟩

/-- **Contiguity**: in every accepted trace, whatever the interleaving of tasks and whatever the
drain() suspensions, the packets of one message are never interleaved with another message's -/
theorem C19_contiguous (evs : List Ev) (s : CS) (h : runTrace init evs = some s) : contiguous (sids s.wire) :=
  (run_sendInv h).contig

/-- … and within a message the packets go out in the encoder's order 0, 1, 2, … -/
theorem C19_in_order (evs : List Ev) (s : CS) (h : runTrace init evs = some s) (sid : Nat) :
    ((s.wire.filter (·.2.1 = sid)).map (·.2.2)) = List.range (s.wire.filter (·.2.1 = sid)).length := by
  have ho := (run_sendInv h).order sid
  have hl := congrArg List.length ho
  rw [List.length_map, List.length_range] at hl
  rw [hl]
  exact ho

/-- **An unsendable message is harmless**: it writes nothing and leaves connection, state, tasks and locks as they were -/
theorem C19_unsendable_harmless (s s' : CS) (sid : Nat) (h : step s (.sendBad sid) = some s') :
    s' = { s with prev := some (.sendBad sid) } :=
  (step_guard h).2.symm

/-- **A failing write on the current link leads to DISCONNECTED**: it records a fault, which enables the DISCONNECTED report while CONNECTED, and releases the send lock -/
theorem C19_write_failure (s s' : CS) (c sid : Nat) (h : step s (.writeFail c sid) = some s') (hst : s.st = .connected)
    (hc : s.conn = some c) :
    s'.faults > 0 ∧ s'.lockHolder = none ∧
      ∃ s'', step s' (.writerClose c) = some s'' ∧ (step s'' (.status .disconnected)).isSome = true := by
  obtain ⟨-, rfl⟩ := step_guard h
  refine ⟨Nat.lt_of_lt_of_eq (Nat.succ_pos _) (if_pos hc).symm, rfl, _, step_of_guard ?_,
    Option.isSome_iff_exists.2 ⟨_, step_of_guard ?_⟩⟩
  · simp [hc]
  · simp [hst, hc]

/-- … whereas a failure on a link that has been replaced in the meantime is not a fault of the current link -/
theorem C19_stale_link_failure (s s' : CS) (c sid : Nat) (h : step s (.writeFail c sid) = some s') (hc : s.conn ≠ some c) :
    s'.faults = s.faults ∧ s'.st = s.st ∧ s'.conn = s.conn ∧ s'.lockHolder = none := by
  obtain ⟨-, rfl⟩ := step_guard h
  exact ⟨if_neg hc, rfl, rfl, rfl⟩

/-- **One message, one link**: in every accepted trace all packets of a message are written to the same link — the one that was
current at its first packet — also when the client reconnects while the sender is suspended between two packets -/
theorem C19_one_link (evs : List Ev) (s : CS) (h : runTrace init evs = some s) :
    ∀ e1 ∈ s.wire, ∀ e2 ∈ s.wire, e1.2.1 = e2.2.1 → e1.1 = e2.1 := by
  intro e1 h1 e2 h2 he
  have a := (run_sendInv h).link e1 h1
  rw [he, (run_sendInv h).link e2 h2] at a
  simp only [Option.some.injEq, Prod.mk.injEq, true_and] at a
  exact a.symm

/-- **A link that is given up is shut**: DISCONNECTED is only reported for a fault seen on the current link, and only once
that link has been shut -/
theorem C19_fault_shuts_link (s s' : CS) (h : step s (.status .disconnected) = some s') :
    ∃ c, s.conn = some c ∧ c ∈ s.faulted ∧ c ∈ s'.writerClosed := by
  obtain ⟨hg, rfl⟩ := step_guard h
  simp only [Bool.and_eq_true, decide_eq_true_eq] at hg
  obtain ⟨-, -, hg⟩ := hg
  split at hg
  next c hc =>
    simp only [Bool.and_eq_true, List.contains_iff_mem] at hg
    exact ⟨c, hc, hg.1, hg.2⟩
  next => cases hg

/-- a fault is only ever recorded for a link that exists -/
theorem C19_faulted_links_exist (evs : List Ev) (s : CS) (h : runTrace init evs = some s) : ∀ c ∈ s.faulted, c < s.nextConn :=
  (run_links h).faulted

/-- **No sender is left behind on a replaced link**: in every accepted trace, every link that was reported CONNECTED and is
no longer the current one has been shut, and no write to a shut link is accepted (`C19_no_write_after_shut`).  (What the
model cannot state is the liveness half — that a sender suspended in drain() on the shut link is woken with an error and
releases the send lock; that is asyncio's contract for a closed transport, exercised by the `stuck` drain scenarios and the
replay `C19/send-blocked/replaced-link` on real sockets) -/
theorem C19_replaced_link_shut (evs : List Ev) (s : CS) (h : runTrace init evs = some s) :
    ∀ c ∈ s.everConnected, s.conn ≠ some c → c ∈ s.writerClosed :=
  (run_links h).replacedShut

/-- … and no packet is written to a link after it has been shut -/
theorem C19_no_write_after_shut (s s' : CS) (c sid idx : Nat) (h : step s (.write c sid idx) = some s') : c ∉ s.writerClosed := by
  obtain ⟨hg, -⟩ := step_guard h
  simp only [Bool.and_eq_true, Bool.not_eq_true'] at hg
  simpa using hg.1.2

-- non-vacuity: two concurrent 2-packet sends whose drains suspend
example : (runTrace init [.connCall, .implStart, .implOk 1, .status .connected, .connReturn, .sendCall 1, .write 1 1 0, .sendCall 2,
    .write 1 1 1, .sendReturn 1, .write 1 2 0, .write 1 2 1, .sendReturn 2]).map (fun s => sids s.wire) = some [1, 1, 2, 2] := by decide +kernel
-- a sender suspended after packet 0 when the link is lost: the link is shut before DISCONNECTED is reported, its second packet fails
-- on the OLD link (and releases the lock) while the client has reconnected; writing it to the old or to the new link is not a behaviour of the model
example : (runTrace init [.connCall, .implStart, .implOk 1, .status .connected, .connReturn, .recvStart 1, .sendCall 1, .write 1 1 0,
    .envEof 1, .writerClose 1, .status .disconnected, .recvExit 1 false, .connCall, .implStart, .implOk 2, .status .connected, .connReturn, .recvStart 2,
    .drainFail 1, .sendReturn 1, .sendCall 2, .write 2 2 0]).map (fun s => (s.wire, s.lockHolder, s.st)) = some ([(1, 1, 0), (2, 2, 0)], some 2, .connected) := by decide +kernel
example : runTrace init [.connCall, .implStart, .implOk 1, .status .connected, .connReturn, .recvStart 1, .sendCall 1, .write 1 1 0,
    .envEof 1, .writerClose 1, .status .disconnected, .recvExit 1 false, .connCall, .implStart, .implOk 2, .status .connected, .connReturn, .recvStart 2,
    .write 1 1 1] = none := by decide +kernel
example : runTrace init [.connCall, .implStart, .implOk 1, .status .connected, .connReturn, .recvStart 1, .sendCall 1, .write 1 1 0,
    .envEof 1, .writerClose 1, .status .disconnected, .recvExit 1 false, .connCall, .implStart, .implOk 2, .status .connected, .connReturn, .recvStart 2,
    .write 2 1 1] = none := by decide +kernel
-- DISCONNECTED cannot be reported while the faulted link is still open
example : runTrace init [.connCall, .implStart, .implOk 1, .status .connected, .connReturn, .recvStart 1, .envEof 1, .status .disconnected] = none := by decide +kernel
-- and the interleaved order is not a behaviour of the model
example : runTrace init [.connCall, .implStart, .implOk 1, .status .connected, .connReturn, .sendCall 1, .write 1 1 0, .sendCall 2,
    .write 1 2 0] = none := by decide +kernel

end N2k.Client

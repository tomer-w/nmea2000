/-
C01, last clause for decimal resolutions — "whenever every field of a well-formed payload lies inside its
database range, decoding returns a message instead of failing".

`decode_number` computes `value = raw * resolution` in binary64 and rejects the field when
`value < min - tol` or `value > max + tol` with `tol = max(|resolution|/2, |value|·1e-15)`, all in binary64.
The theorem: if the EXACT scaled value `raw × resolution` (decimal arithmetic, as the database means it) lies
inside the exact database range, the binary64 comparison never rejects it — for every raw value of up to 64 bits,
every moderate decimal resolution (`Lit.moderate`: mantissa up to 10^30, exponent in [-100, 30]) and every range —
and the value returned is the correctly rounded product.  (`C01_number_total_int` is the same statement for integer resolutions and offsets.)
Floats are the exact-rational model of `Model/Num.lean`; the rounding lemmas are in `Lemmas/F64.lean`.
-/
import N2k.Gen.All
import N2k.Lemmas.Dec01F
namespace N2k
open N2k.Gen

/-- a decimal literal of moderate size: mantissa up to 10^30 in absolute value, exponent in [-100, 30] -/
def Lit.moderate (l : Lit) : Bool := decide (l.m.natAbs ≤ 10 ^ 30 ∧ -100 ≤ l.e ∧ l.e ≤ 30)

-- no Offset here (`Lit.ofInt 0`), so the effective signedness of `decodeNumber` (`C01_effSigned`) is `signed` itself
theorem C01_number_total_float (data off len : Nat) (signed : Bool) (res mn mx : Lit)
    (z : Int) (hz : z = (if signed then signExtend (Straight.decode_int data off len) len
                          else ((Straight.decode_int data off len : Nat) : Int)))
    (hna : naCode len signed ≠ some z)
    (hf : res.isFloat = true) (hpos : 0 < res.m) (hres : res.moderate = true)
    (hz64 : z.natAbs ≤ 2 ^ 64)
    (hmn : mn.moderate = true) (hmx : mx.moderate = true)
    (h1 : mn.exact ≤ (z : Rat) * res.exact) (h2 : (z : Rat) * res.exact ≤ mx.exact) :
    decodeNumber data off len signed res mn mx (Lit.ofInt 0) =
      .ok (some (.flt (rne (rne (z : Rat) * res.val)))) := by
  -- overflow is not modelled, so only the lower bound on the resolution is used
  have _ := hz64
  have _ := hmn
  have _ := hmx
  have he : -100 ≤ res.e := (of_decide_eq_true hres).2.1
  rw [Dec01.decodeNumber_eq, Dec01.effSigned_zero, fieldInt, ← hz, if_neg hna, mulLit_float z res hf,
    Number.addLit_flt_zero]
  have hval : res.val = rne res.exact := by
    unfold Lit.val
    rw [if_pos hf]
  have hcov := Dec01F.tol_covers z res.exact (Dec01F.pow2_le_exact res hpos he)
  rw [← hval] at hcov
  set v := rne (rne (z : Rat) * res.val)
  have hvv : rne v = v := rne_idem _
  simp only [Dec01.checkRange, hf, true_or, if_true, Num.toRat, Dec01F.rne_val]
  have htt := Dec01F.le_maxR_right (rne (absR res.val / 2)) (rne (rne (absR v) * relTol))
  have hc := abs_le.mp hcov
  rw [if_neg (not_lt.mpr ?lo), if_neg (not_lt.mpr ?hi)]
  case lo => exact (rne_mono (by linarith [rne_mono h1, hc.2])).trans_eq hvv
  case hi => exact hvv.symm.trans_le (rne_mono (by linarith [rne_mono h2, hc.1]))

def floatNumber (f : FieldDef) : Bool :=
  f.ftype = "NUMBER" && (match f.resolution with | some r => r.isFloat | none => false)
def floatNumberOk (f : FieldDef) : Bool :=
  !floatNumber f ||
  ((match f.resolution with | some r => decide (0 < r.m) && r.moderate | none => false) &&
   (match f.rangeMin with | some l => l.moderate | none => true) &&
   (match f.rangeMax with | some l => l.moderate | none => true))
/-- database facts (kernel, regenerated): every NUMBER field with a decimal resolution has a positive, moderate
resolution and moderate range ends; exactly one of them (127513 peukertExponent) has an Offset and is outside
the theorem above -/
theorem C01_db_float_resolutions : dbPgns.all (fun p => p.fields.all floatNumberOk) = true := by
  decide +kernel
theorem C01_db_float_offsets :
    (dbPgns.flatMap (fun p => (p.fields.filter (fun f => floatNumber f && (match f.offset with | some o => o.m != 0 | none => false))).map (fun f => (p.pgn, f.id))))
      = [(127513, "peukertExponent")] := by
  decide +kernel

/-! ### the one decimal-resolution field with an Offset: 127513 Peukert Exponent (8 bits at 48, 0.002 steps, excess 1, range 1 .. 1.5)

`C01_number_total_float` does not cover it; `Dec01F.peukert` analyses its two further roundings: every raw value 0..250 (the database
range) decodes, to within 1e-15 of raw × 0.002 + 1; 251..254 (beyond RangeMax) are rejected as above the range; 255 is "not available"
(these five by kernel evaluation). -/

/-- the parameters used below are the database's (kernel, regenerated) -/
theorem C01_db_peukert :
    (dbPgns.flatMap (fun p => (p.fields.filter (fun f => p.pgn = 127513 && f.id = "peukertExponent")).map
      (fun f => decide (f.bitOffset = some 48) && decide (f.bitLength = some 8) && !f.signed && decide (f.resolution = some ⟨2, -3, true⟩) &&
        decide (f.rangeMin = some ⟨1, 0, false⟩) && decide (f.rangeMax = some ⟨15, -1, true⟩) && decide (f.offset = some ⟨1, 0, false⟩))))
      = [true] := by
  decide +kernel

theorem C01_peukert_total :
    (List.range 251).all (fun z =>
      match decodeNumber (z * 2 ^ 48) 48 8 false ⟨2, -3, true⟩ ⟨1, 0, false⟩ ⟨15, -1, true⟩ ⟨1, 0, false⟩ with
      | .ok (some (.flt v)) => decide (|v - ((z : Rat) * 2 / 1000 + 1)| ≤ 1 / 10 ^ 15)
      | _ => false) = true := by
  refine List.all_eq_true.2 fun z hz => ?_
  obtain ⟨v, hd, ha, -⟩ := Dec01F.peukert z (Nat.le_of_lt_succ (List.mem_range.1 hz))
  rw [hd]
  exact decide_eq_true ha

theorem C01_peukert_beyond :
    ([251, 252, 253, 254].all (fun z =>
      match decodeNumber (z * 2 ^ 48) 48 8 false ⟨2, -3, true⟩ ⟨1, 0, false⟩ ⟨15, -1, true⟩ ⟨1, 0, false⟩ with
      | .error .above => true
      | _ => false) = true) ∧
    decodeNumber (255 * 2 ^ 48) 48 8 false ⟨2, -3, true⟩ ⟨1, 0, false⟩ ⟨15, -1, true⟩ ⟨1, 0, false⟩ = .ok none := by
  decide +kernel

-- non-vacuity: 127508 battery current, raw -32767 (the most negative legal value), resolution 0.1, range -3276.7 .. 3276.6
example : (decodeNumber ((65536 - 32767) * 2 ^ 24) 24 16 true ⟨1, -1, true⟩ ⟨-32767, -1, true⟩ ⟨32766, -1, true⟩ (Lit.ofInt 0)).toOption.isSome = true := by
  decide +kernel

end N2k

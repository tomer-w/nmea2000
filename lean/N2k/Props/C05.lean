/-
C05 — CAN identifier packing and parsing are mutually inverse (PDU1/PDU2 aware).
The two functions are the T2 translations of `NMEA2000Decoder._extract_header`
(decoder.py) and `NMEA2000Encoder._build_header` (encoder.py), regenerated from /repo on
every run: the theorems below are re-proved against what the code says now.
-/
import N2k.Lemmas.Header05
namespace N2k
open Straight

/-- closed form of parsing an identifier laid out as prio | 18-bit field | src. -/
theorem extract_closed (f src prio : Nat) (hp : prio < 8) (hs : src < 256) (hf : f < 2^18) :
    extract_header (prio * 67108864 + f * 256 + src) =
      (if f / 256 % 256 < 240 then f - f % 256 else f, src,
       if f / 256 % 256 < 240 then f % 256 else 255, prio) := by
  obtain ⟨e1, e2, e3⟩ := unpack3 prio hf hs
  rw [show prio * 67108864 + f * 256 + src = (prio * 2^18 + f) * 256 + src by omega, extract_header_eq,
    show 67108864 = 256 * 262144 from rfl, ← Nat.div_div_eq_div_mul, e1, e2, e3, Nat.mod_eq_of_lt hp]

/-- closed form of the identifier built by the encoder. -/
theorem build_closed (pgn src dst prio : Nat) (hp : prio < 8) (hs : src < 256) (hd : dst < 256)
    (hpgn : pgn < 2^18) :
    build_header pgn src dst prio =
      prio * 67108864 + (if pgn / 256 % 256 < 240 then pgn - pgn % 256 + dst else pgn) * 256 + src := by
  unfold build_header
  simp only [and_mask _ 8 255 rfl, and_mask _ 18 262143 rfl, and_mask _ 3 7 rfl, and_mask _ 2 3 rfl,
    Nat.shiftRight_eq_div_pow, shl_or_shl _ _ 8 8 (Nat.mod_lt _ (Nat.two_pow_pos 8)),
    shl_or_shl _ _ 18 8 (Nat.mod_lt _ (Nat.two_pow_pos 18)),
    shl_or _ _ 8 (Nat.mod_lt _ (Nat.two_pow_pos 8)), shl_or _ dst 8 hd]
  simp only [Nat.reducePow, Nat.mod_eq_of_lt hp, Nat.mod_eq_of_lt hs]
  have h := pgn_fields pgn
  rw [Nat.mod_eq_of_lt hpgn] at h
  have hc : pgn % 256 < 256 := Nat.mod_lt _ (by decide)
  generalize pgn / 65536 % 4 = a, pgn / 256 % 256 = b, pgn % 256 = c at h hc ⊢
  rw [h, Nat.eq_sub_of_add_eq h, Nat.mod_eq_of_lt hpgn, Nat.mod_eq_of_lt (show pgn - c + dst < 262144 by omega)]
  split <;> simp only [Nat.add_mul, Nat.mul_assoc, Nat.reduceMul]

/-- build ∘ parse = id on every 29-bit identifier (all 2^29 of them, no enumeration). -/
theorem C05_parse_build (id : Nat) (h : id < 2^29) :
    build_header (extract_header id).1 (extract_header id).2.1 (extract_header id).2.2.1
      (extract_header id).2.2.2 = id := by
  have hf : id / 256 % 262144 < 2^18 := Nat.mod_lt _ (by decide)
  have hs : id % 256 < 256 := Nat.mod_lt _ (by decide)
  have hp : id / 67108864 < 8 := Nat.div_lt_of_lt_mul h
  have e : id = id / 67108864 * 67108864 + id / 256 % 262144 * 256 + id % 256 := by omega
  generalize id / 67108864 = prio, id / 256 % 262144 = f, id % 256 = src at *
  subst e
  rw [extract_closed f src prio hp hs hf]
  by_cases c : f / 256 % 256 < 240
  · obtain ⟨l1, l2⟩ := low_byte f 0 (by decide)
    rw [Nat.add_zero] at l1 l2
    simp only [if_pos c]
    rw [build_closed _ _ _ _ hp hs (Nat.mod_lt _ (by decide)) (Nat.lt_of_le_of_lt (Nat.sub_le ..) hf), l1, if_pos c, l2,
      Nat.sub_zero, Nat.sub_add_cancel (Nat.mod_le f 256)]
  · simp only [if_neg c]
    rw [build_closed _ _ _ _ hp hs (by decide) hf, if_neg c]

/-- parse ∘ build on broadcast (PDU2) PGNs: the destination always parses to 255, whatever
destination was given (non-canonical input included). -/
theorem C05_build_parse_pdu2 (pgn src dst prio : Nat) (hp : prio < 8) (hs : src < 256) (hd : dst < 256)
    (hpgn : pgn < 2^18) (hpf : 240 ≤ pgn / 256 % 256) :
    extract_header (build_header pgn src dst prio) = (pgn, src, 255, prio) := by
  rw [build_closed pgn src dst prio hp hs hd hpgn, if_neg (by omega),
      extract_closed _ src prio hp hs hpgn]
  simp only [if_neg (show ¬ pgn / 256 % 256 < 240 by omega)]

/-- non-canonical PDU1 input: a PDU1 PGN given with a non-zero low byte parses back with the
low byte cleared (the destination occupies that byte on the wire). -/
theorem C05_build_parse_pdu1_noncanon (pgn src dst prio : Nat) (hp : prio < 8) (hs : src < 256) (hd : dst < 256)
    (hpgn : pgn < 2^18) (hpf : pgn / 256 % 256 < 240) :
    extract_header (build_header pgn src dst prio) = (pgn - pgn % 256, src, dst, prio) := by
  obtain ⟨e1, e2⟩ := low_byte pgn dst hd
  rw [build_closed pgn src dst prio hp hs hd hpgn, if_pos hpf, extract_closed _ src prio hp hs (by omega), e1, e2,
    if_pos hpf, if_pos hpf, Nat.add_sub_cancel]

/-- parse ∘ build on addressed (PDU1) PGNs in canonical form (low byte zero). -/
theorem C05_build_parse_pdu1 (pgn src dst prio : Nat) (hp : prio < 8) (hs : src < 256) (hd : dst < 256)
    (hpgn : pgn < 2^18) (hpf : pgn / 256 % 256 < 240) (hcanon : pgn % 256 = 0) :
    extract_header (build_header pgn src dst prio) = (pgn, src, dst, prio) := by
  rw [C05_build_parse_pdu1_noncanon pgn src dst prio hp hs hd hpgn hpf, hcanon, Nat.sub_zero]

/-- no two identifiers are confused: parsing is injective on 29-bit identifiers. -/
theorem C05_injective (a b : Nat) (ha : a < 2^29) (hb : b < 2^29)
    (h : extract_header a = extract_header b) : a = b := by
  have h1 := C05_parse_build a ha
  have h2 := C05_parse_build b hb
  rw [h] at h1
  exact h1.symm.trans h2

/-- parsed fields are in range: pgn < 2^18, src < 256, dst < 256, prio < 8. -/
theorem C05_parse_ranges (id : Nat) :
    (extract_header id).1 < 2^18 ∧ (extract_header id).2.1 < 256 ∧
    (extract_header id).2.2.1 < 256 ∧ (extract_header id).2.2.2 < 8 := by
  rw [extract_header_eq]
  have hf : id / 256 % 262144 < 262144 := Nat.mod_lt _ (by decide)
  generalize id / 256 % 262144 = f at hf ⊢
  refine ⟨?_, Nat.mod_lt _ (by decide), ?_, Nat.mod_lt _ (by decide)⟩
  · dsimp only
    split <;> omega
  · dsimp only
    split <;> omega

/-- the built identifier always fits in 29 bits (so it is one of the identifiers of `C05_parse_build`). -/
theorem C05_build_lt (pgn src dst prio : Nat) (hp : prio < 8) (hs : src < 256) (hd : dst < 256)
    (hpgn : pgn < 2^18) : build_header pgn src dst prio < 2^29 := by
  rw [build_closed pgn src dst prio hp hs hd hpgn]
  split <;> omega

-- non-vacuity: concrete identifiers meeting the hypotheses
example : (0x09F80123 : Nat) < 2^29 ∧ extract_header 0x09F80123 = (129025, 0x23, 255, 2) := by decide
example : extract_header (build_header 59904 5 17 6) = (59904, 5, 17, 6) := by decide
example : extract_header (build_header 129025 5 17 2) = (129025, 5, 255, 2) := by decide

end N2k

/-
C03 — fast-packet segmentation and reassembly are inverse for every payload length.
Model: `N2k/Model/Fast.lean` (tie: T3, exhaustive over all 224 lengths × 8 counters on every run).
Property theorems only; helper lemmas in `N2k/Lemmas/Fast03.lean` (the frames as the encoder cuts them) and
`N2k/Lemmas/Fast04.lean` (reassembly: the round trip is the in-order case of C04's exactness).
-/
import N2k.Lemmas.Fast04
namespace N2k.Fast

/-- every frame carries at most 8 bytes -/
theorem C03_frame_sizes (seq : Nat) (P : Bytes) : ∀ f ∈ frames seq P, f.length ≤ 8 :=
  frames_mem_length seq P

/-- the first frame: sequence counter in the high 3 bits, frame counter 0, announced total length, first 6 bytes -/
theorem C03_first_frame (seq : Nat) (P : Bytes) :
    (frames seq P)[0]? = some (seq * 32 :: P.length :: P.take 6) :=
  rfl

/-- number of frames: 1 for up to 6 bytes, else 1 + ⌈(len-6)/7⌉ — no frame for data that does not exist -/
theorem C03_frame_count (seq : Nat) (P : Bytes) :
    (frames seq P).length = if P.length ≤ 6 then 1 else 1 + (P.length - 6 + 6) / 7 := by
  rw [frames_length]
  split
  · next h => rw [Nat.sub_eq_zero_of_le h]
  · rfl

/-- frame i ≥ 1: same sequence counter, frame counter i, and between 1 and 7 data bytes, namely the
next slice of the payload -/
theorem C03_later_frame (seq : Nat) (P : Bytes) (i : Nat) (hi : 0 < i) (h : i < (frames seq P).length) :
    (frames seq P)[i]? = some ((seq * 32 + i) :: (P.drop (6 + 7 * (i - 1))).take 7) ∧
    0 < ((P.drop (6 + 7 * (i - 1))).take 7).length := by
  cases i with
  | zero => cases hi
  | succ j =>
    rw [frames_length] at h
    have hj : 6 + 7 * j < P.length := by omega
    rw [frames_getElem?_succ, if_pos hj, Nat.add_sub_cancel, List.length_take, List.length_drop]
    exact ⟨rfl, by omega⟩

/-- for the legal lengths (≤ 223) the frame counter stays below 32, i.e. inside its 5 bits -/
theorem C03_frame_counter_fits (seq : Nat) (P : Bytes) (hP : P.length ≤ 223) :
    (frames seq P).length ≤ 32 := by
  rw [frames_length]
  omega

/-- the sequence counter advances modulo 8 and differs from the previous message's -/
theorem C03_seq_advances (seq : Nat) (P : Bytes) (hs : seq < 8) :
    (encode seq P).2 = (seq + 1) % 8 ∧ (encode seq P).2 ≠ seq ∧ (encode seq P).2 < 8 := by
  have _ := hs   -- not needed: `(seq + 1) % 8 ≠ seq` for every `seq`
  refine ⟨rfl, ?_, Nat.mod_lt _ (by decide)⟩
  show (seq + 1) % 8 ≠ seq
  omega

/-- A decoder fed the frames in order — from a stream state that is empty or holds an unfinished
message with another sequence counter — returns nothing until the last frame and then exactly the
original payload; afterwards no record is left. -/
theorem C03_roundtrip (seq : Nat) (P : Bytes) (hs : seq < 8) (hP : P.length ≤ 223)
    (r0 : Option Rec) (h0 : ∀ x, r0 = some x → x.seq ≠ seq) :
    run r0 (frames seq P) =
      (none, List.replicate ((frames seq P).length - 1) Out.stored ++ [Out.complete P]) :=
  run_frames_new seq P hs hP r0 (startsNew_of_seq_ne r0 seq _ h0)

/-- **A reused sequence counter does not mix messages.**  The same conclusion from ANY stream state — also one that holds
leftovers of an unfinished message with this very counter — as long as the message's first frame is not a mere repetition
of the first frame stored there (`startsNew`: other counter, other data bytes or other announced length): the first frame
then starts a new message. -/
theorem C03_roundtrip_reused_counter (seq : Nat) (P : Bytes) (hs : seq < 8) (hP : P.length ≤ 223)
    (r0 : Option Rec) (hnew : startsNew r0 seq (P.length :: P.take 6) = true) :
    run r0 (frames seq P) =
      (none, List.replicate ((frames seq P).length - 1) Out.stored ++ [Out.complete P]) :=
  run_frames_new seq P hs hP r0 hnew

def encodeAll : Nat → List Bytes → List Bytes
  | _, [] => []
  | seq, P :: Ps => frames seq P ++ encodeAll ((seq + 1) % 8) Ps

def completes : List Out → List Bytes
  | [] => []
  | .complete p :: os => p :: completes os
  | _ :: os => completes os

/-- consecutive messages (counter wrap-around included): each is returned exactly once, in order -/
theorem C03_sequence (seq : Nat) (Ps : List Bytes) (hs : seq < 8) (hP : ∀ P ∈ Ps, P.length ≤ 223) :
    completes (run none (encodeAll seq Ps)).2 = Ps := by
  have hc : ∀ (k : Nat) (p : Bytes) (os : List Out),
      completes (List.replicate k Out.stored ++ Out.complete p :: os) = p :: completes os := by
    intro k p os
    induction k with
    | zero => rfl
    | succ k ih => simpa [List.replicate_succ, completes] using ih
  induction Ps generalizing seq with
  | nil => rfl
  | cons P Ps ih =>
    simp only [encodeAll]
    rw [run_append, run_frames_new seq P hs (hP P (by simp)) none rfl, List.append_assoc, List.singleton_append, hc,
      ih ((seq + 1) % 8) (Nat.mod_lt _ (by omega)) (fun Q hQ => hP Q (by simp [hQ]))]

-- non-vacuity
example : run none (frames 7 (List.range 223)) =
    (none, List.replicate 31 Out.stored ++ [Out.complete (List.range 223)]) := by decide +kernel
example : (frames 5 []).length = 1 ∧ run none (frames 5 []) = (none, [Out.complete []]) := by decide +kernel

end N2k.Fast

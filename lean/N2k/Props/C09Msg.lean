/-
C09, message level — "encoding … produces a payload that decodes back to the same values …; changing one
field's value changes only that field's bits".

For every well-formed encodable definition (`EncWF`, evaluated on the regenerated database by
`C02_db_coverage`) and EVERY assignment of field values the compiled encoder accepts: the bits of every field
in the produced payload are exactly that field's own encoded integer, reduced to the field's width — no
field disturbs another one's bits, whatever the other values are.  Together with the codec-level theorems
(`C09_number_nearest_tick`: the encoded integer of a NUMBER is the nearest tick and lies in the
representable range, so the reduction changes nothing; `C09_raw_exact_partial`) this is "decodes back to the
same values"; where the reduction does change the integer (LOOKUP/RESERVED/DATE/TIME raw values that do not
fit) it is the known finding `C09/wraps-silently/*`.
-/
import N2k.Props.C09
namespace N2k
open N2k.Spec

/-- **The bits of every field are that field's own encoded value.** -/
theorem C09_payload_bits (env : Env) (g : List PgnDef) (p : PgnDef) (hwf : EncWF p = true)
    (fs : List Field) (bytes : List Nat) (henc : runEnc env (compileEnc g p) fs = .ok bytes) :
    ∀ f ∈ p.fields, ∀ o l, f.bitOffset = some o → f.bitLength = some l →
      ∃ fld v, getField fs (fieldId f) = some fld ∧ encValue env fld (encKind f l) = .ok v ∧
        Straight.decode_int (leNat bytes) o l = contrib v l := by
  simp only [EncWF, Bool.and_eq_true] at hwf
  exact Enc02.payload_bits env g p hwf.1.1.1.2 fs bytes henc

/-- corollary: two accepted assignments that agree on a field produce the same bits for it, whatever the other fields hold -/
theorem C09_field_bits_depend_on_field_only (env : Env) (g : List PgnDef) (p : PgnDef) (hwf : EncWF p = true)
    (fs fs' : List Field) (b b' : List Nat)
    (h : runEnc env (compileEnc g p) fs = .ok b) (h' : runEnc env (compileEnc g p) fs' = .ok b')
    (f : FieldDef) (hf : f ∈ p.fields) (o l : Nat) (ho : f.bitOffset = some o) (hl : f.bitLength = some l)
    (hsame : getField fs (fieldId f) = getField fs' (fieldId f)) :
    Straight.decode_int (leNat b) o l = Straight.decode_int (leNat b') o l := by
  obtain ⟨fld, v, hg, hv, hd⟩ := C09_payload_bits env g p hwf fs b h f hf o l ho hl
  obtain ⟨fld', v', hg', hv', hd'⟩ := C09_payload_bits env g p hwf fs' b' h' f hf o l ho hl
  rw [hsame, hg'] at hg
  cases hg
  rw [hv'] at hv
  cases hv
  rw [hd, hd']

end N2k

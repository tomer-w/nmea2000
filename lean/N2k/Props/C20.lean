/-
C20 — the serial (USB) stream resynchronises after noise with bounded buffering.
Model: `N2k/Model/Serial.lean` = the buffer algorithm of `WaveShareNmea2000Gateway._receive_impl`
after the repairs `024dc88` (bounded buffer) and the checksum-based resynchronisation (tie: T3; the checksum
itself is the T2 translation), and `Wire.decodeUsb` for the checksum gate.
Property theorems only; their vocabulary (`Framed`, `Valid`, `MarkerFree`, `falsePacketAt`) and the helpers are in
`N2k/Lemmas/Serial20.lean`, the general theory of framing in `N2k/Lemmas/Framer.lean`.
-/
import N2k.Model.Wire
import N2k.Lemmas.Serial20
namespace N2k.Serial

/-- **Bounded buffering**: after every read, whatever arrives, at most 19 bytes are held back. -/
theorem C20_buffer_bound (buf data : Bytes) : (feed buf data).1.length ≤ 19 := by
  have h := framer.run_rest_waits_normal (buf ++ data)
  rw [h.2] at h
  rw [feed_eq_run]
  exact Nat.le_of_lt_succ (framer_waits_iff.1 h.1)

/-- **Segmentation independence**: splitting the stream into reads in any way changes neither the
packets handed to the decoder nor the bytes held back. -/
theorem C20_chunking (buf : Bytes) (reads : List Bytes) (hbuf : feed buf [] = (buf, [])) :
    feedAll buf reads = feed buf reads.flatten := by
  rw [feed_eq_run, List.append_nil] at hbuf
  rw [feed_eq_run, feedAll_eq]
  exact framer.feedAll_eq_run feed_eq_run reads hbuf

/-- the hypothesis of `C20_chunking` holds for the empty buffer and for every buffer the client can
ever hold (whatever `feed` leaves behind is a fixed point of an empty read) -/
theorem C20_buffer_normal (buf data : Bytes) :
    feed (feed buf data).1 [] = ((feed buf data).1, []) := by
  rw [feed_eq_run (feed buf data).1, List.append_nil, feed_eq_run]
  exact framer.run_normal _

/-- **Marker-free noise loses nothing**: valid packets separated by noise runs that contain no start
marker are all handed to the decoder, in order, and nothing else is. -/
theorem C20_noise_free_lossless (segs : List (Bytes × Bytes)) (tail : Bytes)
    (hn : ∀ s ∈ segs, MarkerFree s.1) (hp : ∀ s ∈ segs, Valid s.2) (ht : MarkerFree tail) :
    (feed [] ((segs.map (fun s => s.1 ++ s.2)).flatten ++ tail)).2 = segs.map (·.2) := by
  rw [feed_eq_run, List.nil_append]
  rw [run_lossless segs tail hn hp, run_noise ht, List.append_nil]

/-- **Resynchronisation**: after ARBITRARY noise (markers included), a run of back-to-back
valid packets is delivered from the second packet on at the latest: the delivered list ends
with `ps.tail` and what precedes it came out of the noise (and possibly the first packet). -/
theorem C20_resync_one (noise : Bytes) (ps : List Bytes) (hp : ∀ p ∈ ps, Valid p) :
    ∃ pre, (feed [] (noise ++ ps.flatten)).2 = pre ++ ps.tail ∨
           (feed [] (noise ++ ps.flatten)).2 = pre ++ ps := by
  rw [feed_eq_run, List.nil_append]
  obtain ⟨pre, h⟩ : ps.tail <:+ (framer.run (noise ++ ps.flatten)).2 := by
    rcases run_resync hp noise with h | h
    · rw [h]
      exact List.tail_suffix ps
    · exact h.2
  exact ⟨pre, .inl h.symm⟩

/-- **Resynchronisation, sharper**: noise of any content — markers included — loses NO packet, unless a marker
inside the noise happens to start 20 bytes that pass the checksum (1 chance in 256 per marker): then the client
cannot tell that window from a packet.  Every window that starts inside the noise fails its checksum ⇒ every
packet of the run is handed to the decoder, and nothing else is. -/
theorem C20_resync_none (noise : Bytes) (ps : List Bytes) (hp : ∀ p ∈ ps, Valid p)
    (hnf : ∀ k, k < noise.length → ¬ falsePacketAt (noise ++ ps.flatten) k) :
    (feed [] (noise ++ ps.flatten)).2 = ps := by
  rw [feed_eq_run, List.nil_append]
  exact (run_resync hp noise).resolve_right fun ⟨⟨k, hk, h⟩, _⟩ => hnf k hk h

/-- only windows that pass the client's checksum test are handed to the decoder -/
theorem C20_only_valid_windows (buf data : Bytes) : ∀ w ∈ (feed buf data).2, windowOk w = true ∧ w.length = 20 := by
  rw [feed_eq_run]
  refine framer.forall_mem_run (fun {c n w} hc => ?_) _
  dsimp only [framer] at hc
  split at hc
  · cases hc
  · split at hc <;> cases hc
    exact ⟨‹_›, by rw [List.length_take]; omega⟩

/-- **Checksum gate**: a 20-byte window whose checksum byte does not match is never decoded. -/
theorem C20_checksum_gate (pkt : Bytes) (h : Straight.checksum pkt ≠ pkt.getD 19 0) :
    ∀ f, Wire.decodeUsb pkt ≠ .ok f := by
  intro f hf
  unfold Wire.decodeUsb at hf
  split at hf
  · split at hf
    · cases hf
    · -- `split` finds `h` among the hypotheses and takes the branch of the failed checksum test
      split at hf
      · cases hf
      · cases hf
  · cases hf

/-- what "the checksum" is: the low byte of the sum of bytes 2..18 (all of frame type, format, id,
length, data and the reserved byte). Stated about the T2 translation of `calculate_canbus_checksum`,
so a change of the summed range breaks this theorem. -/
theorem C20_checksum_covers (pkt : Bytes) :
    Straight.checksum pkt = ((pkt.drop 2).take 17).sum % 256 := by
  unfold Straight.checksum
  exact Nat.and_two_pow_sub_one_eq_mod _ 8

-- non-vacuity
example : Valid (Wire.encodeUsb 0x19F80123 [1, 2, 3]) := by
  refine ⟨⟨by decide +kernel, by decide +kernel, by decide +kernel, by decide +kernel⟩, by decide +kernel⟩
-- a marker in the noise followed by a valid packet: the false window fails its checksum and the packet is NOT lost
example : (feed [] ([0xaa, 0x55, 1, 2, 3] ++ Wire.encodeUsb 0x19F80123 [1, 2, 3] ++ Wire.encodeUsb 0x19F80123 [4])).2
    = [Wire.encodeUsb 0x19F80123 [1, 2, 3], Wire.encodeUsb 0x19F80123 [4]] := by decide +kernel
example : (feed [] ([0x11, 0xaa] ++ Wire.encodeUsb 0x19F80123 [1, 2, 3] ++ [0xaa])).2 = [Wire.encodeUsb 0x19F80123 [1, 2, 3]]
    ∧ (feed [] ([0x11, 0xaa] ++ Wire.encodeUsb 0x19F80123 [1, 2, 3] ++ [0xaa])).1 = [0xaa] := by decide +kernel

end N2k.Serial

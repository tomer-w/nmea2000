/-
C12 — gateway clients deliver every decodable frame once, in order, for any chunking.
* Framing is a function of the concatenated stream, not of the reads: `Reader.feed13` / `feedLines`
  (EByte / text clients, assumption: StreamReader.readexactly/readline consume the concatenation)
  and `Serial.feed` (the serial client's own buffer algorithm, C20_chunking).
* With the StreamReader's line limit the text clients' loop (`feedLim`: `readuntil`, `LimitOverrunError`, the
  in-overlong-line flag) refines a byte-at-a-time automaton (`autoRun`): every segmentation yields the stream's lines
  of at most `limit` bytes, an overlong line is dropped whole and costs no other line.
* The receive queue delivers in FIFO order, each message once, whatever the callback does.
Tie: T3 — the packets the real clients hand to their decoder under every segmentation class vs the
framing models; the callback log vs a reference decoder on the stream's packets.
PARTIAL w.r.t. the runtime: real TCP segmentation and asyncio internals are represented only
through the real StreamReader object.  Helpers in `N2k/Lemmas/Reader12.lean` (framing, over `Lemmas/Framer.lean`) and `N2k/Lemmas/Client19.lean` (queue).
-/
import N2k.Lemmas.Client19
import N2k.Lemmas.Reader12
import N2k.Props.C20
namespace N2k.Reader

/-- **EByte: segmentation independence** — packets taken and bytes held back do not depend on how the stream was split into reads -/
theorem C12_ebyte_chunking (reads : List Bytes) : feedAll feed13 [] reads = feed13 [] reads.flatten := by
  rw [framer13.feedAll_eq_run feed13_eq_run reads (framer13.run_none rfl), feed13_eq_run]

/-- … and they are exactly the stream's 13-byte packets -/
theorem C12_ebyte_packets (ps : List Bytes) (tail : Bytes) (hp : ∀ p ∈ ps, p.length = 13) (ht : tail.length < 13) :
    feed13 [] (ps.flatten ++ tail) = (tail, ps) := by
  rw [feed13_eq_run, List.nil_append, framer13.run_wholes (fun p h => framer13_whole (hp p h)),
    framer13.run_none (if_pos ht), List.append_nil]
  rfl

/-- **Text clients: segmentation independence** -/
theorem C12_lines_chunking (reads : List Bytes) : feedAll feedLines [] reads = feedLines [] reads.flatten := by
  rw [lineFramer.feedAll_eq_run feedLines_eq_run reads (lineFramer.run_none rfl), feedLines_eq_run]

/-- … and the lines taken are exactly the stream's newline-terminated lines -/
theorem C12_lines_packets (ls : List Bytes) (tail : Bytes)
    (hl : ∀ l ∈ ls, ∃ body, l = body ++ [10] ∧ 10 ∉ body) (ht : 10 ∉ tail) :
    feedLines [] (ls.flatten ++ tail) = (tail, ls) := by
  have hw : ∀ l ∈ ls, lineFramer.Whole l := fun l h => by
    obtain ⟨body, rfl, hb⟩ := hl l h
    exact lineFramer_whole hb
  rw [feedLines_eq_run, List.nil_append, lineFramer.run_wholes hw, lineFramer_waits ht, List.append_nil]

/-! ### the text clients with the reader's line limit (`readuntil` + the client's overrun handling, `feedLim`) -/

/-- **Refinement**: the buffer-based receive loop (`readuntil` with its limit, the client's `readexactly(e.consumed)` and its
in-overlong-line flag) hands the decoder exactly the lines the byte-at-a-time automaton emits, for every chunk of data from every pair of
related stable states, and ends in related stable states -/
theorem C12_lim_refines (limit : Nat) (s a : LState) (data : Bytes) (hr : Rel s a) (hs : Stable limit s) (ha : Stable limit a) :
    (feedLim limit s data).2 = (autoRun limit a data).2 ∧
    Rel (feedLim limit s data).1 (autoRun limit a data).1 ∧
    Stable limit (feedLim limit s data).1 ∧ Stable limit (autoRun limit a data).1 :=
  drainLim_refines limit _ s a data [] hr hs ha (Nat.lt_succ_self _)

/-- **Segmentation independence with the limit**: however the transport splits the stream into reads, the lines handed to the decoder are
the lines the automaton emits for the whole stream — in particular the same for every segmentation -/
theorem C12_lim_chunking (limit : Nat) (reads : List Bytes) :
    (feedAllLim limit {} reads).2 = (autoRun limit {} reads.flatten).2 := by
  suffices h : ∀ s a, Rel s a → Stable limit s → Stable limit a →
      (feedAllLim limit s reads).2 = (autoRun limit a reads.flatten).2 from
    h {} {} ⟨rfl, fun _ => rfl⟩ (stable_nil ..) (stable_nil ..)
  induction reads with
  | nil =>
    intro s a _ _ _
    rfl
  | cons d ds ih =>
    intro s a hr hs ha
    obtain ⟨h1, h2, h3, h4⟩ := C12_lim_refines limit s a d hr hs ha
    rw [feedAllLim_cons, List.flatten_cons, autoRun_append, ih _ _ h2 h3 h4, h1]

theorem C12_lim_chunking' (limit : Nat) (reads reads' : List Bytes) (h : reads.flatten = reads'.flatten) :
    (feedAllLim limit {} reads).2 = (feedAllLim limit {} reads').2 := by
  rw [C12_lim_chunking, C12_lim_chunking, h]

/-- … and these are exactly the stream's newline-terminated lines whose body is not longer than the limit: an overlong line is dropped
whole — also the part of it that arrives later — and costs no other line -/
theorem C12_lim_packets (limit : Nat) (ls : List Bytes) (tail : Bytes)
    (hl : ∀ l ∈ ls, ∃ body, l = body ++ [10] ∧ 10 ∉ body) (ht : 10 ∉ tail) :
    (autoRun limit {} (ls.flatten ++ tail)).2 = ls.filter (fun l => l.length ≤ limit + 1) := by
  induction ls with
  | nil =>
    rw [List.flatten_nil, List.nil_append]
    by_cases h : tail.length ≤ limit
    · rw [autoRun_fits ht (by simpa using h)]
      rfl
    · rw [autoRun_over ht (Nat.zero_le _) (by simpa using h)]
      rfl
  | cons l ls ih =>
    obtain ⟨body, rfl, hb⟩ := hl l (by simp)
    have ih' := ih (fun q hq => hl q (by simp [hq]))
    rw [List.flatten_cons, List.append_assoc, autoRun_append, autoRun_line limit {} hb (Nat.zero_le _)]
    simp only
    rw [show ({ buf := [], skip := false } : LState) = {} from rfl, ih', List.filter_cons]
    by_cases h2 : body.length ≤ limit
    · simp [h2]
    · simp [h2]

/-- **Nothing is left to deliver when the stream ends**: after every feed the loop is in a stable state (`C12_lim_refines`), and in a
stable state a receive call finds no line — it waits, and at the end of the stream `readuntil` hands the client the unterminated rest, which
is not a line and is not decoded.  So the lines of `C12_lim_packets` are all there is, whether or not the stream goes on -/
theorem C12_lim_eof (limit fuel : Nat) (st : LState) (h : Stable limit st) :
    stepLim limit st = none ∧ (drainLim limit fuel st []).2 = [] := by
  have hs : stepLim limit st = none := by
    rw [stepLim, findNl_eq_none.2 h.1]
    exact if_neg (Nat.not_lt.2 h.2)
  refine ⟨hs, ?_⟩
  cases fuel with
  | zero => rfl
  | succ n =>
    rw [drainLim, hs]
    rfl

-- non-vacuity: limit 3; "abcdefg\nhi\n" in one read and cut inside the overlong line
example : (feedAllLim 3 {} [[97, 98, 99, 100, 101, 102, 103, 10, 104, 105, 10]]).2 = [[104, 105, 10]] := by decide
example : (feedAllLim 3 {} [[97, 98, 99, 100, 101], [102, 103, 10, 104, 105, 10]]).2 = [[104, 105, 10]] := by decide
example : (feedAllLim 3 {} [[97, 98], [99, 10, 104, 105, 10]]).2 = [[97, 98, 99, 10], [104, 105, 10]] := by decide

end N2k.Reader

namespace N2k.Client

/-- **Queue: every queued message is delivered once, in order** — at every point of every accepted
run, what has been delivered followed by what is still queued is exactly what was put, in order -/
theorem C12_queue_fifo (evs : List QEv) (s : QS) (h : qrun {} evs = some s) : s.delivered ++ s.queue = s.puts :=
  qrun_inv evs h rfl

/-- a callback that raises (or is slow) is indistinguishable, for the queue, from one that succeeds -/
theorem C12_callback_failure_irrelevant (s : QS) : qstep s (.cbEnd true) = qstep s (.cbEnd false) :=
  rfl

/-- the serial client's framing is segmentation independent as well (C20) -/
theorem C12_serial_chunking (reads : List Serial.Bytes) : Serial.feedAll [] reads = Serial.feed [] reads.flatten :=
  Serial.C20_chunking [] reads (by decide)

-- non-vacuity
example : Reader.feed13 [] ((List.range 13) ++ (List.range 13).map (· + 20) ++ [1, 2]) = ([1, 2], [List.range 13, (List.range 13).map (· + 20)]) := by decide +kernel
example : (qrun {} [.put 1, .put 2, .cbStart 1, .cbEnd true, .cbStart 2]).map (·.delivered) = some [1, 2] := by decide +kernel

end N2k.Client

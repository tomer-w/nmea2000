/-
C08 — proprietary PGN definitions are selected exactly by their match fields.
* table theorem (kernel): the 24 generated dispatchers are what `Spec.compileDisp` produces from the
  database groups (`Tables.disps_eq_compiled`), regenerated from /repo on every run (T1);
* generic theorem: the if-chain semantics of a compiled dispatcher IS `Spec.select`.
Helpers in `N2k/Lemmas/Disp08.lean`.
-/
import N2k.Tables.TMisc
import N2k.Lemmas.Disp08
namespace N2k
open N2k.Spec

/-- running the compiled dispatcher = selecting by match fields -/
theorem C08_dispatch_is_select (g : List PgnDef) (name : String) (d : Disp)
    (h : compileDisp g = some (name, d)) (data : Nat) :
    runDisp d data = (select g data).map (suffix g) := by
  unfold compileDisp at h
  cases g with
  | nil => simp at h
  | cons p0 rest =>
    simp only at h
    split at h
    · simp only [Option.some.injEq, Prod.mk.injEq] at h
      obtain ⟨-, rfl⟩ := h
      unfold runDisp select
      simp only [List.find?_map]
      have hfun : ((fun a : Arm => a.always || (!a.conds.isEmpty && a.conds.all (N2k.condHolds data))) ∘
          (fun p => ({ conds := condsOf p, always := (condsOf p).isEmpty, target := suffix (p0 :: rest) p } : Arm)))
          = fun p => matchesDef p data := by
        funext p
        simp only [Function.comp_apply]
        show _ = (condsOf p).all (N2k.condHolds data)
        cases condsOf p <;> simp
      rw [hfun]
      cases List.find? (fun p => matchesDef p data) (List.filter (fun p => !p.fallback) (p0 :: rest)) <;> simp
    · simp at h

/-- every dispatcher of the shipped code is the compiled dispatcher of a database group, hence selects by `Spec.select` -/
theorem C08_code_dispatch (name : String) (d : Disp) (h : (name, d) ∈ Gen.disps) :
    ∃ g ∈ groupsOf Gen.dbPgns, compileDisp g = some (name, d) ∧
      ∀ data, runDisp d data = (select g data).map (suffix g) := by
  rw [Tables.disps_eq_compiled, List.mem_filterMap] at h
  obtain ⟨g, hg, hc⟩ := h
  exact ⟨g, hg, hc, C08_dispatch_is_select g name d hc⟩

/-- two payloads that agree on every match-field position select the same definition -/
theorem C08_only_match_bits (g : List PgnDef) (data data' : Nat)
    (h : ∀ p ∈ g, ∀ c ∈ condsOf p, condHolds data c = condHolds data' c) :
    select g data = select g data' := by
  have hm : ∀ p ∈ g, matchesDef p data = matchesDef p data' := by
    intro p hp
    rw [matchesDef, matchesDef, Bool.eq_iff_iff, List.all_eq_true, List.all_eq_true]
    refine forall₂_congr fun c hc => ?_
    have e : Spec.condHolds data c = Spec.condHolds data' c := h p hp c hc
    rw [e]
  unfold select
  rw [← List.head?_filter, ← List.head?_filter (p := fun p => matchesDef p data'),
    List.filter_congr fun p hp => hm p (List.mem_filter.mp hp).1]

/-- a payload never appears under a non-fallback definition whose match values it does not carry -/
theorem C08_selected_carries_match_values (g : List PgnDef) (data : Nat) (p : PgnDef)
    (h : select g data = some p) (hf : p.fallback = false) : matchesDef p data = true := by
  have := List.find?_some (select_nonfallback g data p h hf)
  simpa using this

/-- the selected definition is the FIRST matching one in database order -/
theorem C08_first_in_order (g : List PgnDef) (data : Nat) (p : PgnDef)
    (h : select g data = some p) (hf : p.fallback = false) :
    ∃ pre post, g.filter (fun q => !q.fallback) = pre ++ p :: post ∧ ∀ q ∈ pre, matchesDef q data = false := by
  obtain ⟨-, pre, post, heq, hpre⟩ := List.find?_eq_some_iff_append.mp (select_nonfallback g data p h hf)
  exact ⟨pre, post, heq, fun q hq => by simpa using hpre q hq⟩

/-- the fallback is used when no non-fallback definition matches; with no fallback nothing is decoded -/
theorem C08_fallback (g : List PgnDef) (data : Nat)
    (h : ∀ p ∈ g, p.fallback = false → matchesDef p data = false) :
    select g data = (g.filter (·.fallback)).getLast? := by
  unfold select
  have : (g.filter (fun p => !p.fallback)).find? (fun p => matchesDef p data) = none := by
    rw [List.find?_eq_none]
    intro p hp
    rw [List.mem_filter] at hp
    simp [h p hp.1 (by simpa using hp.2)]
  rw [this]

-- non-vacuity: PGN 129808 (two definitions, the second without match fields) after the repair
example : (Gen.disps.filter (·.1 = "129808")).map (fun d => runDisp d.2 0) = [some "129808_dscCallInformation"] := by
  decide +kernel
example : (Gen.disps.filter (·.1 = "129808")).map (fun d => runDisp d.2 (112 <<< 8)) = [some "129808_dscDistressCallInformation"] := by
  decide +kernel

end N2k

/-
C14 — close() is final and status notifications are faithful.
Model: the client LTS (tie: trace validation with close() injected at every step of every session
shape).  PARTIAL w.r.t. the runtime as C13.  Helpers in `N2k/Lemmas/ClientStep.lean`.
-/
import N2k.Lemmas.ClientStep
namespace N2k.Client

/-- **CLOSED is absorbing**: no event moves the client out of CLOSED -/
theorem C14_closed_absorbing (s s' : CS) (e : Ev) (hc : s.st = .closed) (h : step s e = some s') : s'.st = .closed := by
  cases he : e.isStatus with
  | false => rw [((step_frame h).status he).1, hc]
  | true =>
    cases e with
    | status u =>
      obtain ⟨hg, -⟩ := step_guard h
      simp [hc] at hg
    | _ => cases he

theorem C14_closed_forever (s s' : CS) (evs : List Ev) (hc : s.st = .closed) (h : runTrace s evs = some s') : s'.st = .closed := by
  exact runTrace_preserves (fun h1 h2 => C14_closed_absorbing _ _ _ h2 h1) h hc

/-- once CLOSED, no connection attempt starts: neither a new connect call, nor one already in flight, nor a retry -/
theorem C14_no_attempt_after_closed (s : CS) (hc : s.st = .closed) : step s .implStart = none := by
  cases h : step s .implStart with
  | none => rfl
  | some t => rcases step_ite h with ⟨-, hg, -⟩ | ⟨-, hg, -⟩ <;> simp [hc] at hg

/-- … and no further status is ever reported -/
theorem C14_no_status_after_closed (s : CS) (t : CSt) (hc : s.st = .closed) : step s (.status t) = none := by
  exact step_guard_none (by simp [hc])

/-- a connection that completes after close() is shut, not used: once CLOSED no receive task is started -/
theorem C14_no_receiver_after_closed (s : CS) (c : Nat) (hc : s.st = .closed) : step s (.recvStart c) = none := by
  exact step_guard_none (by simp [hc])

/-- the status events of a trace, in order -/
def statusEvents : List Ev → List CSt
  | [] => []
  | .status t :: es => t :: statusEvents es
  | _ :: es => statusEvents es

def noRepeat : List CSt → Prop
  | a :: b :: rest => a ≠ b ∧ noRepeat (b :: rest)
  | _ => True

private theorem noRepeat_snoc (t : CSt) : ∀ (l : List CSt) (a : CSt), noRepeat (a :: l) → l.getLast?.getD a ≠ t →
    noRepeat (a :: (l ++ [t]))
  | [], a, _, h => ⟨by simpa using h, trivial⟩
  | b :: l, a, h, h' => ⟨h.1, noRepeat_snoc t l b h.2 (by simpa [List.getLast?_cons] using h')⟩

/-- **Status notifications are faithful**: the status log is exactly the sequence of state changes,
in order, never twice in a row the same state, and the current state is the last one reported -/
theorem C14_status_faithful (evs : List Ev) (s : CS) (h : runTrace init evs = some s) :
    s.statusLog = statusEvents evs ∧ noRepeat (.disconnected :: s.statusLog) ∧
    s.st = (s.statusLog.getLast?).getD .disconnected := by
  have key := runTrace_induct (R := fun s evs s' =>
      s.st = (s.statusLog.getLast?).getD .disconnected → noRepeat (.disconnected :: s.statusLog) →
      s'.statusLog = s.statusLog ++ statusEvents evs ∧ noRepeat (.disconnected :: s'.statusLog) ∧
      s'.st = (s'.statusLog.getLast?).getD .disconnected)
    (fun s h1 h2 => ⟨(List.append_nil _).symm, h2, h1⟩) (fun {s t s' e es} h1 ih i1 i2 => by
      cases he : e.isStatus with
      | false =>
        obtain ⟨h4, h5, -⟩ := (step_frame h1).status he
        rw [h4, h5] at ih
        rw [show statusEvents (e :: es) = statusEvents es by cases e <;> first | rfl | cases he]
        exact ih i1 i2
      | true =>
        cases e with
        | status u =>
          obtain ⟨hg, rfl⟩ := step_guard h1
          simp only [Bool.and_eq_true, decide_eq_true_eq] at hg
          obtain ⟨a, b⟩ := ih (by simp) (noRepeat_snoc u _ _ i2 (by rw [← i1]; exact Ne.symm hg.1.1))
          exact ⟨a.trans (List.append_assoc _ _ _), b⟩
        | _ => cases he) h
  exact key rfl ⟨⟩

/-- **After close() returns**: the state is CLOSED, the link has been shut, and no receive task is alive —
unless close() was called from inside the receive task itself (from the status callback that task runs):
then that task is the caller; it is not cancelled and can only end (`C14_inner_close_receiver_only_exits`) -/
theorem C14_close_returns (s s' : CS) (h : step s .closeReturn = some s') :
    s.st = .closed ∧ (s.recv = none ∨ s.closeFromRecv = true) ∧ (∀ c, s.conn = some c → c ∈ s.writerClosed) ∧ s'.closeReturned = true := by
  obtain ⟨hg, rfl⟩ := step_guard h
  simp only [Bool.and_eq_true, Bool.or_eq_true, decide_eq_true_eq, Option.isNone_iff_eq_none] at hg
  obtain ⟨⟨⟨⟨h1, h2⟩, h3⟩, -⟩, h4⟩ := hg
  refine ⟨h2, h3, ?_, rfl⟩
  intro c hc
  simpa [hc] using h4

/-- … and the reconnect task has ended (close() cancels it), unless close() was called from inside it — from the status
callback its connect() runs — in which case it is the caller and makes no further attempt (`C14_no_attempt_after_closed`) -/
theorem C14_close_ends_reconnect (s s' : CS) (h : step s .closeReturn = some s') :
    s.reconn = 0 ∨ s.closeFromReconn = true := by
  obtain ⟨hg, -⟩ := step_guard h
  simp only [Bool.and_eq_true, Bool.or_eq_true, decide_eq_true_eq] at hg
  exact hg.1.2

/-- a reconnect task that still gets to its connect() call once the client is CLOSED makes no attempt: the call returns at once -/
theorem C14_reconnect_after_closed_is_inert (s s' : CS) (hc : s.st = .closed) (h : step s .reconnCall = some s') :
    step s' .implStart = none := by
  have : s'.st = .closed := C14_closed_absorbing s s' _ hc h
  exact C14_no_attempt_after_closed s' this

/-- after a close() from inside the receive task, that task performs no further read iteration (it can only exit): no
accepted event is one, and the flag stays set, so step by step this holds in every continuation the model accepts -/
theorem C14_inner_close_receiver_only_exits (s s' : CS) (e : Ev) (hf : s.closeFromRecv = true) (h : step s e = some s') :
    (∀ c p, e ≠ .recvIter c p) ∧ s'.closeFromRecv = true := by
  constructor
  · rintro c p rfl
    obtain ⟨hg, -⟩ := step_guard h
    simp [hf] at hg
  · cases he : e.isInnerClose with
    | false => exact ((step_frame h).closeFromRecv he).trans hf
    | true =>
      cases e with
      | closeCallInRecv =>
        obtain ⟨-, rfl⟩ := step_guard h
        rfl
      | _ => cases he

/-- … and from then on no receive callback runs -/
theorem C14_quiet_after_close (s s' : CS) (evs : List Ev) (hc : s.closeReturned = true) (h : runTrace s evs = some s') :
    s'.closeReturned = true ∧ s'.cbCount = s.cbCount := by
  refine runTrace_preserves (P := fun t => t.closeReturned = true ∧ t.cbCount = s.cbCount) ?_ h ⟨hc, rfl⟩
  intro t e t' h1 ⟨h2, h3⟩
  cases he : e.isCbOrCloseReturn with
  | false =>
    obtain ⟨h4, h5⟩ := (step_frame h1).quiet he
    exact ⟨h4.trans h2, h5.trans h3⟩
  | true =>
    cases e with
    | cb n =>
      obtain ⟨hg, -⟩ := step_guard h1
      simp [h2] at hg
    | closeReturn =>
      obtain ⟨-, rfl⟩ := step_guard h1
      exact ⟨rfl, h3⟩
    | _ => cases he

-- non-vacuity: close while connected
example : (runTrace init [.connCall, .implStart, .implOk 1, .status .connected, .connReturn, .recvStart 1, .closeCall, .status .closed,
    .writerClose 1, .sleep 10, .recvExit 1 true, .sleep 10, .closeReturn]).map (fun s => (s.st, s.closeReturned, s.statusLog)) =
    some (.closed, true, [.connected, .closed]) := by decide +kernel

-- non-vacuity: the user closes from the status callback at the first fault (the callback runs inside the receive task)
example : (runTrace init [.connCall, .implStart, .implOk 1, .status .connected, .connReturn, .recvStart 1, .envEof 1, .writerClose 1, .status .disconnected,
    .closeCallInRecv, .status .closed, .writerClose 1, .closeReturn, .recvExit 1 false]).map (fun s => (s.st, s.closeReturned, s.recv, s.statusLog)) =
    some (.closed, true, none, [.connected, .disconnected, .closed]) := by decide +kernel

end N2k.Client

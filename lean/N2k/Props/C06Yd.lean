/-
C06, message level, Yacht Devices RAW text — the same transparency statement as `C06_message_trip_ebyte`
for the text format: the encoder's lines, once the gateway's `hh:mm:ss.mmm R|T` tokens are prepended and the
line ending is stripped, are all accepted by `decode_yacht_devices_string`, nothing is returned before the
last line and the last line returns exactly what the pre-assembled payload returns.
-/
import N2k.Props.C06Msg
namespace N2k.Enc
open N2k N2k.Dec N2k.Gen N2k.Spec N2k.Straight

/-- what the gateway sends for one encoder line: timestamp, direction marker, then the line without its CR LF -/
def ydOnWire (ts dir : List Char) (l : List Char) : List Char := ts ++ [' '] ++ dir ++ [' '] ++ l.dropLast.dropLast

theorem C06_message_trip_yd (cfg : Config) (st : State) (m : MsgIn) (seq seq' : Nat) (lines : List (List Char))
    (p : PgnDef) (hp : p ∈ dbPgns) (hpg : p.pgn = m.pgn) (hty : p.ptype = "Fast" ∨ p.ptype = "Single")
    (hc : CanonAddr m) (hs : seq < 8) (w : Bool)
    (h0 : ∀ x, Fast.lookup st.table (m.pgn, m.src, m.dst) = some x → x.seq ≠ seq)
    (h8 : p.ptype = "Single" → ∀ B, callEncode shippedEnc m = .ok B → 1 ≤ B.length ∧ B.length ≤ 8)
    (ts dir : List Char) (hts : Wire.validHms ts = true) (hsp : ' ' ∉ ts) (hne : ts ≠ [])
    (hdir : dir = ['R'] ∨ dir = ['T'])
    (he : encodeYd shippedEnc seq m = .ok (seq', lines)) :
    (∀ l ∈ lines, ∃ body, l = body ++ ['\r', '\n'] ∧ '\r' ∉ body ∧ '\n' ∉ body) ∧
    ∃ B fs, callEncode shippedEnc m = .ok B ∧
      okFrames (lines.map (fun l => Wire.decodeYd (ydOnWire ts dir l))) = some fs ∧
      (let outs := (run shipped cfg st (fs.map (toInput w))).2
       outs.dropLast.all (· = Out.none) = true ∧
       outs.getLast? = some (step shipped cfg st (wholeInput w m B)).2) := by
  obtain ⟨frs, hF, rfl⟩ := encodeYd_inv shippedEnc seq seq' m lines he
  have hbytes : ∀ f ∈ frs, 1 ≤ f.length ∧ ∀ b ∈ f, b < 256 := by
    refine encodeFrames_bytes _ encFns fasts seq seq' m frs hs (fun hnf B' hB' => ?_) hF
    rcases hty with ht | ht
    · exact absurd (show shipped.isFast m.pgn = .fast by rw [← hpg, C07_db_fast_kind p hp, ht]; rfl) hnf
    · exact (h8 ht B' hB').1
  refine ⟨List.forall_mem_map.2 fun f _ => Wire.C06_yd_line (frameId m) f, ?_⟩
  exact (message_trip Wire.encodeYd (fun l => Wire.decodeYd (ydOnWire ts dir l)) cfg st m seq seq' frs p hp hpg hty hc hs w h0
    (fun ht B hB _ => (h8 ht B hB).2) hF
    fun id hid f hf _ => Wire.C06_yd_rt id f hid (hbytes f hf).1 (hbytes f hf).2 ts dir hts hsp hne hdir).2

end N2k.Enc

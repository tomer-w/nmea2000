/-
C17 — the identity hash depends exactly on message kind and primary-key fields.
`hash = md5(key)` with `key = id ++ "_" ++ str(raw)` for every primary-key field, in order
(`Dec.hashKey`, tie: T3 — the harness hashes the model's key with hashlib and compares with the
implementation's digest).  Which fields are primary keys is pinned by the table theorems of C01
(field metadata of every decoder = database).  Collision-freedom of MD5 itself is NOT a theorem:
"different keys ⇒ different hashes" is stated on the key strings (`C17_key_injective`), the step
from distinct keys to distinct digests is the named gap.  Helpers in `N2k/Lemmas/Dec17.lean`.
-/
import N2k.Gen.All
import N2k.Lemmas.Dec17
import N2k.Lemmas.Utf8
namespace N2k.Dec

/-- the primary-key raw values of a message, in field order -/
def keyRaws (m : Msg) : List PyVal := (m.fields.filter (·.fmeta.pk)).map (·.raw)

/-- with network mapping off no hash is set; with it on, the hash key is `hashKey` of the decoded message -/
theorem C17_off_none (G : GenLayer) (cfg : Config) (st : State) (i : Input) (o : OutMsg)
    (hb : cfg.buildMap = false) (h : (step G cfg st i).2 = .msg o) : o.hashKey = none := by
  obtain ⟨m, hm⟩ := step_hashKey G cfg st i o h
  simpa [hb] using hm

theorem C17_on_some (G : GenLayer) (cfg : Config) (st : State) (i : Input) (o : OutMsg)
    (hb : cfg.buildMap = true) (h : (step G cfg st i).2 = .msg o) : ∃ k, o.hashKey = some k := by
  obtain ⟨m, hm⟩ := step_hashKey G cfg st i o h
  exact ⟨hashKey m, by simpa [hb] using hm⟩

/-- the key is a function of the id and the primary-key raw values only -/
theorem C17_key_eq (m : Msg) : hashKey m = (keyRaws m).foldl (fun acc r => acc ++ "_" ++ pyStr r) m.id :=
  hashKey_eq_fold m

/-- **Equal id and equal primary-key raws ⇒ equal key** (hence equal hash), whatever the other
fields, values, units, source, destination, priority or decoder instance -/
theorem C17_congr (m m' : Msg) (hid : m.id = m'.id) (hk : keyRaws m = keyRaws m') : hashKey m = hashKey m' := by
  rw [C17_key_eq, C17_key_eq, hid, hk]

/-- the hash key is computed before unit preferences are applied and does not see them -/
theorem C17_units_irrelevant (units : List (String × String)) (m m' : Msg) (h : applyUnits units m = some m') :
    hashKey m' = hashKey m := by
  obtain ⟨_, hid, _, _, hf⟩ := applyUnits_frame units m m' h
  rw [hashKey_eq_fold, hashKey_eq_fold, hid, keyRaws_of_frame _ _ hf]

def noUnderscore (s : String) : Prop := '_' ∉ s.toList
def intOrNone : PyVal → Prop
  | .int _ => True
  | .none => True
  | _ => False

/-- the kinds of raw value a primary-key field can have: integer, absent, or (ASCII) text -/
def keyKind : PyVal → Prop
  | .int _ => True
  | .none => True
  | .str _ => True
  | _ => False

/-- **Different id or different primary-key raws ⇒ different key**, for ids without '_' and integer
(or absent) key values -/
theorem C17_key_injective (m m' : Msg) (h1 : noUnderscore m.id) (h2 : noUnderscore m'.id)
    (k1 : ∀ r ∈ keyRaws m, intOrNone r) (k2 : ∀ r ∈ keyRaws m', intOrNone r)
    (h : hashKey m = hashKey m') : m.id = m'.id ∧ keyRaws m = keyRaws m' := by
  have kp : ∀ r, intOrNone r → KeyPart r := fun r => by cases r <;> first | exact id | exact False.elim
  rw [hashKey_eq_fold, hashKey_eq_fold] at h
  exact foldKey_injective (.inr ⟨h1, h2⟩) (fun r hr => kp r (k1 r hr)) (fun r hr => kp r (k2 r hr)) h

/-- **… and with text keys too** (the four station-id keys of 130320–130324): for two messages of the
SAME definition (same id, same number of key fields) whose key values are integers, absent or text —
any text, also text containing '_' or spelling "None" — equal keys imply equal key values.
(Text is written with its length, so the parts of the key can be read back one by one.)
The text must be ASCII (`a1`, `a2`: every code < 128, which is what `PyVal.str` is documented to carry):
`pyStr` renders codes with `Char.ofNat`, which sends every invalid code point to '\0', so without this
the claim is false (`C17_text_needs_ascii` below). -/
theorem C17_key_injective_text (m m' : Msg) (hid : m.id = m'.id) (hlen : (keyRaws m).length = (keyRaws m').length)
    (k1 : ∀ r ∈ keyRaws m, keyKind r) (k2 : ∀ r ∈ keyRaws m', keyKind r)
    (a1 : ∀ r ∈ keyRaws m, ∀ cs, r = .str cs → ∀ c ∈ cs, c < 128)
    (a2 : ∀ r ∈ keyRaws m', ∀ cs, r = .str cs → ∀ c ∈ cs, c < 128)
    (h : hashKey m = hashKey m') : keyRaws m = keyRaws m' := by
  have _ := hlen      -- not needed: a shorter key ends where the longer one has its next '_'
  have kp : ∀ r, keyKind r → (∀ cs, r = .str cs → ∀ c ∈ cs, c < 128) → KeyPart r := fun r k a => by
    cases r <;> first | exact k | exact a _ rfl
  rw [hashKey_eq_fold, hashKey_eq_fold] at h
  exact (foldKey_injective (.inl hid) (fun r hr => kp r (k1 r hr) (a1 r hr)) (fun r hr => kp r (k2 r hr) (a2 r hr)) h).2

/-- why the ASCII hypothesis is needed: codes 0 and 0xD800 (not a valid code point) render alike -/
theorem C17_text_needs_ascii : pyStr (.str [0]) = pyStr (.str [0xD800]) ∧ PyVal.str [0] ≠ PyVal.str [0xD800] := by
  decide +kernel

def pkKindOk (f : FieldDef) : Bool :=
  !f.pk || f.ftype = "LOOKUP" || f.ftype = "MMSI" || f.ftype = "STRING_LAU" || f.ftype = "DYNAMIC_FIELD_KEY" ||
    (f.ftype = "NUMBER" && f.resolution == some (Lit.ofInt 1))
/-- database facts (kernel, regenerated): no definition id contains '_'; primary-key fields are
LOOKUP, NUMBER with resolution 1, MMSI (integers), or one of the string/dynamic kinds listed -/
theorem C17_db_key_kinds : Gen.dbPgns.all (fun p => !p.id.toList.contains '_' && p.fields.all pkKindOk) = true := by
  simp only [contains_ascii_bytes _ '_' (by decide)]
  decide +kernel

-- non-vacuity: an absent station id and the station id "None" have different keys
example : pyStr .none ≠ pyStr (.str ("None".toList.map Char.toNat)) := by decide +kernel

-- the key of a battery-status message: its id and its one key field, not the voltage
example : hashKey ⟨127508, "batteryStatus", "", none, [⟨⟨"instance", "", none, none, none, "NUMBER", true⟩, .int 1, .int 1⟩, ⟨⟨"voltage", "", none, none, none, "NUMBER", false⟩, .int 5, .int 5⟩]⟩
        = "batteryStatus_1" := by decide +kernel

end N2k.Dec

/-
C18 — preferred-unit conversion rewrites only value and unit of matching quantities.
Model: `Dec.applyUnits` / `Dec.convertField` / the six conversion functions in
`N2k/Model/Decoder.lean` (Python float arithmetic as exact rationals + `rne`; tie: T3 over the
quantity fields' value ranges × preference maps).  Helpers in `N2k/Lemmas/Dec18.lean`; `fieldFrame` stands
in `N2k/Lemmas/DecStep.lean`, with the frame lemmas that the decoder's normal form needs too.
-/
import N2k.Gen.All
import N2k.Lemmas.Dec18
namespace N2k.Dec

/-- **Frame rule**: applying preferences keeps the message's PGN, id, description, interval, the number
and order of fields and, per field, id, name, description, quantity, type, primary-key flag and RAW
value; only `value` and `unit` may change -/
theorem C18_frame (units : List (String × String)) (m m' : Msg) (h : applyUnits units m = some m') :
    m'.pgn = m.pgn ∧ m'.id = m.id ∧ m'.desc = m.desc ∧ m'.ttlMs = m.ttlMs ∧
    m'.fields.map fieldFrame = m.fields.map fieldFrame :=
  applyUnits_frame units m m' h

/-- a field whose quantity has no recognised preference is untouched (no quantity, quantity without a
preference, unrecognised unit, quantity without conversions) -/
theorem C18_untouched (units : List (String × String)) (f : Field)
    (h : ∀ pq u, f.fmeta.pq = some pq → assocGet pq units = some u → conversion pq u f.fmeta.unit = none) :
    convertField units f = some f := by
  unfold convertField
  split
  · rfl
  · rename_i pq hpq
    split
    · rfl
    · rename_i u hu
      rw [h pq u hpq hu]

/-- an angle the database already gives in degrees is left alone whatever the ANGLE preference -/
theorem C18_degrees_untouched (units : List (String × String)) (f : Field)
    (hq : f.fmeta.pq = some "ANGLE") (hu : f.fmeta.unit = some "deg") : convertField units f = some f := by
  apply C18_untouched
  intro pq u h _
  rw [hq] at h
  cases h
  simp [conversion, hu]

/-- absent values stay absent (the unit label is still rewritten) -/
theorem C18_absent (units : List (String × String)) (f f' : Field) (hv : f.value = .none)
    (h : convertField units f = some f') : f'.value = .none := by
  unfold convertField at h
  split at h
  · cases h
    exact hv
  split at h
  · cases h
    exact hv
  split at h
  · cases h
    exact hv
  rw [hv] at h
  simp only [Option.some.injEq] at h
  rw [← h]

/-- no preferences: nothing changes -/
theorem C18_no_prefs (m : Msg) : applyUnits [] m = some m := rfl

/-- preferences are matched on the lower-cased unit: `mkConfig` lower-cases every requested unit -/
theorem C18_case_insensitive (u : UserConfig) (cfg : Config) (h : mkConfig u = some cfg) :
    cfg.units = u.units.map (fun p => (p.1, lower p.2)) := by
  rw [L10.mkConfig_some h]
  rfl

/-- **Decoding with preferences = conversion of decoding without**: one step of the decoder under
`cfg` and under `cfg` with the preferences removed give the same state (up to the dump log) and
outputs related by `applyUnits` -/
theorem C18_decode_commutes (G : GenLayer) (cfg : Config) (st : State) (i : Input) :
    let cfg0 := { cfg with units := [] }
    (step G cfg st i).1.table = (step G cfg0 st i).1.table ∧
    (step G cfg st i).1.sources = (step G cfg0 st i).1.sources ∧
    (match (step G cfg0 st i).2 with
     | .msg o0 =>
       (match applyUnits cfg.units o0.msg with
        | some m' => (step G cfg st i).2 = .msg { o0 with msg := m' }
        | none => (step G cfg st i).2 = .raised)
     | other => (step G cfg st i).2 = other) := by
  intro cfg0
  rw [step_eq, step_eq, core, core, preOf_units]
  cases decoded G (lookupSrc st.sources i.src) i (preOf cfg st i) (route G st.table i).2 with
  | error b => cases b <;> exact ⟨rfl, rfl, rfl⟩
  | ok r => exact ⟨rfl, rfl, emit_units cfg i r.1 r.2.1⟩

/-- bar, on an integer pascal value, is the exact quotient rounded once to binary64 (psi: `C18_psi_acc`) -/
theorem C18_bar_exact (z : Int) : pascalToBar (.int z) = rne ((z : Rat) / 100000) := by
  rfl

/-- Celsius: `round(k − 273.15, 2)`: within 0.005 K (+ double rounding) of the exact difference,
for every kelvin value the 16/24/32-bit temperature fields can carry -/
theorem C18_celsius_acc (k : Rat) (hk : rne k = k) (h0 : 0 ≤ k) (h1 : k ≤ 1000000) :
    |kelvinToCelsius (.flt k) - (k - 27315 / 100)| ≤ 1 / 200 + 1 / 1000000000 := by
  have hK : Approx (toF (.flt k)) k 0 1000000 := .toF hk (abs_le.mpr ⟨by linarith, h1⟩)
  exact ((hK.sub lit_27315).rne.pyRoundN 2).err.trans (by norm_num)

/-- Fahrenheit: `round((k − 273.15)·9/5 + 32)`: within half a degree (+ accumulated binary64 rounding)
of the exact value, for every kelvin value the temperature fields can carry -/
theorem C18_fahrenheit_acc (k : Rat) (hk : rne k = k) (h0 : 0 ≤ k) (h1 : k ≤ 1000000) :
    |kelvinToFahrenheit (.flt k) - ((k - 27315 / 100) * 9 / 5 + 32)| ≤ 1 / 2 + 1 / 1000000 := by
  have hK : Approx (toF (.flt k)) k 0 1000000 := .toF hk (abs_le.mpr ⟨by linarith, h1⟩)
  have h9 : Approx (fdiv 9 5) (9 / 5) _ 2 := .const (by rw [abs_of_pos] <;> norm_num)
  have h32 : Approx (32:ℚ) 32 0 32 := .exact (by norm_num)
  rw [show (k - 27315 / 100) * 9 / 5 + 32 = (k - 27315 / 100) * (9 / 5) + 32 by ring]
  exact ((((hK.sub lit_27315).rne.mul h9).rne.add h32).rne.pyRoundN 0).err.trans (by norm_num)

/-- psi: `p / 6894.76` (not rounded to decimals): within 1e-8 psi of the exact quotient, for every
pascal value the pressure fields can carry -/
theorem C18_psi_acc (p : Rat) (hp : rne p = p) (h0 : -10000000000 ≤ p) (h1 : p ≤ 10000000000) :
    |pascalToPsi (.flt p) - p * 100 / 689476| ≤ 1 / 100000000 := by
  have hP : Approx (toF (.flt p)) p 0 10000000000 := .toF hp (abs_le.mpr ⟨h0, h1⟩)
  have hc : Approx (lit 689476 (-2)) (689476 / 100) _ 6895 :=
    .lit (by rw [pow10_eq]; norm_num) (by rw [abs_of_pos] <;> norm_num)
  rw [show p * 100 / 689476 = p * (689476 / 100)⁻¹ by ring]
  exact (hP.mul (hc.inv (L := 6894) (by norm_num) (by rw [abs_of_pos] <;> norm_num))).rne.err.trans
    (by norm_num)

/-- degrees: `round(r · (180 / math.pi))`: within half a degree (+ accumulated binary64 rounding) of
`r · 180 / pi64`, where `pi64` is the binary64 value of `math.pi`, for every radian value the angle
fields can carry -/
theorem C18_degrees_acc (r : Rat) (hr : rne r = r) (h0 : -10000 ≤ r) (h1 : r ≤ 10000) :
    |radToDegrees (.flt r) - r * 180 / pi64| ≤ 1 / 2 + 1 / 100000000 := by
  have hR : Approx (toF (.flt r)) r 0 10000 := .toF hr (abs_le.mpr ⟨h0, h1⟩)
  have hc : Approx radToDeg (180 / pi64) _ 58 :=
    .const (by unfold pi64; rw [abs_of_pos] <;> norm_num)
  rw [mul_div_assoc]
  exact ((hR.mul hc).rne.pyRoundN 0).err.trans (by norm_num)

/-- knots: `round(v · (3600 / 1852), 1)`: within 0.05 kn (+ accumulated binary64 rounding) of the exact
value, for every m/s value the speed fields can carry -/
theorem C18_knots_acc (v : Rat) (hv : rne v = v) (h0 : -1000000 ≤ v) (h1 : v ≤ 1000000) :
    |mpsToKnots (.flt v) - v * 3600 / 1852| ≤ 1 / 20 + 1 / 100000000 := by
  have hV : Approx (toF (.flt v)) v 0 1000000 := .toF hv (abs_le.mpr ⟨h0, h1⟩)
  have hc : Approx (fdiv 3600 1852) (3600 / 1852) _ 2 := .const (by rw [abs_of_pos] <;> norm_num)
  rw [mul_div_assoc]
  exact ((hV.mul hc).rne.pyRoundN 1).err.trans (by norm_num)

/-- database fact (kernel, regenerated): every field of the four convertible quantities is a NUMBER -/
theorem C18_db_quantities_numeric :
    Gen.dbPgns.all (fun p => p.fields.all (fun f =>
      !(f.pq = some "TEMPERATURE" || f.pq = some "PRESSURE" || f.pq = some "ANGLE" || f.pq = some "SPEED") || f.ftype = "NUMBER")) = true := by
  decide +kernel

-- non-vacuity: 300 K in Celsius, 1 rad in degrees
example : kelvinToCelsius (.int 300) = rne (2685 / 100) := by decide +kernel
example : radToDegrees (.int 1) = 57 := by decide +kernel
-- 300 K in Fahrenheit, 10 m/s in knots, 1 bar in psi (here equal to the singly rounded exact quotient)
example : kelvinToFahrenheit (.int 300) = 80 := by decide +kernel
example : mpsToKnots (.int 10) = rne (194 / 10) := by decide +kernel
example : pascalToPsi (.int 100000) = rne (10000000 / 689476) := by decide +kernel
example : |pascalToPsi (.int 100000) - 145 / 10| ≤ 1 / 100 := by decide +kernel

end N2k.Dec

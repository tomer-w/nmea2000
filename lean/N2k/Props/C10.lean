/-
C10 — PGN include/exclude filters are a pure selection of the unfiltered output.
Model: `N2k/Model/Decoder.lean` (hand model of `NMEA2000Decoder`, tie: T3 on histories under 28
configurations), generic in the generated layer `G`.  Helpers in `N2k/Lemmas/Dec10.lean`.
-/
import N2k.Lemmas.Dec10
namespace N2k.Dec

/-- the property's own notion of "permitted", from the user's lists: not excluded by number or id and,
when an include list is given, listed in it by number or by id (ids compared case-insensitively) -/
def permitted (u : UserConfig) (pgn : Nat) (id : String) : Bool :=
  !(nums u.excludePgns).contains pgn && !(ids u.excludePgns).contains (lower id) &&
  (((nums u.includePgns).isEmpty && (ids u.includePgns).isEmpty) ||
    (nums u.includePgns).contains pgn || (ids u.includePgns).contains (lower id))

/-- the same configuration without PGN filters -/
def unfiltered (u : UserConfig) : UserConfig := { u with excludePgns := [], includePgns := [] }

def visible : Out → Option OutMsg
  | .msg m => some m
  | _ => none

def select (u : UserConfig) (o : Option OutMsg) : Option OutMsg :=
  o.bind (fun m => if permitted u m.msg.pgn m.msg.id then some m else none)

/-- what the selection theorem assumes of the generated layer: every definition of a PGN group carries that PGN; PGN 60928
has the single definition isoAddressClaim.  These are facts of the shipped tables (they hold by evaluation); no theorem
instantiates them for `Dec.shipped`. -/
structure GenOk (G : GenLayer) : Prop where
  pgn_eq : ∀ pgn d m, G.decode pgn d = some (.ok m) → m.pgn = pgn
  claim_id : ∀ d m, G.decode isoClaimPgn d = some (.ok m) → lower m.id = isoClaimId
  claim_single : G.isFast isoClaimPgn = .single
  claim_id_only : ∀ pgn d m, G.decode pgn d = some (.ok m) → lower m.id = isoClaimId → pgn = isoClaimPgn

/-- **Selection**: for every filter configuration and every input history, position by position, the
filtered decoder returns exactly the unfiltered decoder's message if its PGN is permitted, and
nothing otherwise (an input on which either raises counts as "no message"); and filtering never
changes the source map: address claims update it even when they are filtered out. -/
theorem C10_selection (G : GenLayer) (hG : GenOk G) (u : UserConfig) (cfg cfg0 : Config)
    (hc : mkConfig u = some cfg) (hc0 : mkConfig (unfiltered u) = some cfg0) (h : List Input) :
    ((run G cfg {} h).2.map visible = (run G cfg0 {} h).2.map (fun o => select u (visible o))) ∧
    (run G cfg {} h).1.sources = (run G cfg0 {} h).1.sources :=
  L10.selection G u hG.pgn_eq hG.claim_id hG.claim_id_only cfg cfg0 hc hc0 h

/-- filtered-out traffic never disturbs later results, one step: an input whose PGN is excluded by number leaves the state
as it is and returns nothing -/
theorem C10_excluded_step_is_noop (G : GenLayer) (cfg : Config) (st : State) (i : Input)
    (hne : i.pgn ≠ isoClaimPgn) (hex : cfg.excludeNums.contains i.pgn = true) :
    step G cfg st i = (st, .none) :=
  step_filtered (L10.preOf_pf (by rw [L10.pf, decide_eq_true hne, hex]; rfl))

/-- both lists given is rejected at construction -/
theorem C10_both_lists_rejected (u : UserConfig) (h1 : u.excludePgns ≠ []) (h2 : u.includePgns ≠ []) :
    mkConfig u = none := by
  unfold mkConfig
  cases he : u.excludePgns with
  | nil => exact absurd he h1
  | cons a l =>
    cases hi : u.includePgns with
    | nil => exact absurd hi h2
    | cons b l' => simp

-- non-vacuity: a mixed include list by number and by id in odd letter case
example : permitted { includePgns := [.num 127508, .id "GnssPositionData"] } 129029 "gnssPositionData" = true ∧
          permitted { includePgns := [.num 127508, .id "GnssPositionData"] } 127250 "vesselHeading" = false := by
  -- `lower` is evaluated on each literal first: comparing two computed strings costs the kernel 60 M heartbeats here
  have hl : lower "GnssPositionData" = "gnsspositiondata" ∧ lower "gnssPositionData" = "gnsspositiondata" ∧
      lower "vesselHeading" = "vesselheading" := by decide +kernel
  simp [permitted, ids, nums, hl]

end N2k.Dec

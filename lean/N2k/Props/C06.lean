/-
C06 — every gateway wire format round-trips and obeys its fixed framing.
Model: `N2k/Model/Wire.lean` (tie: T3; header/checksum are T2 translations).
These are the frame-level theorems; the message-level round trip composes them with C05
(identifier), C02/C09 (payload) and C03 (fast-packet frames).
Helpers in `N2k/Lemmas/Wire06.lean`.
-/
import N2k.Lemmas.Wire06
import N2k.Props.C05
namespace N2k.Wire
open N2k.Straight

def isByte (b : Nat) : Prop := b < 256

/-- every EByte packet is exactly 13 bytes (after the repair `960072e`: short frames are zero padded) -/
theorem C06_ebyte_13 (id : Nat) (data : Bytes) (h : data.length ≤ 8) :
    (encodeEbyte id data).length = 13 := by
  simp [encodeEbyte, be4]
  omega

/-- EByte round trip: the decoder recovers exactly the identifier's fields and the data bytes -/
theorem C06_ebyte_rt (id : Nat) (data : Bytes) (hid : id < 2^32) (h : data.length ≤ 8) :
    decodeTcp (encodeEbyte id data) = .ok (frameOfId id data) := by
  have h1 : (data.length % 16 + 128) % 16 = data.length := by omega
  have h2 := ofBE_be4 id hid
  simp only [be4] at h2
  simp [decodeTcp, encodeEbyte, be4, h1, h2]

/-- every USB packet is exactly 20 bytes -/
theorem C06_usb_20 (id : Nat) (data : Bytes) (h : data.length ≤ 8) :
    (encodeUsb id data).length = 20 := by
  rw [encodeUsb_eq, List.length_append, usbBody_length id data h]
  rfl

/-- its last byte is the checksum of bytes 2..18 -/
theorem C06_usb_checksum_valid (id : Nat) (data : Bytes) (h : data.length ≤ 8) :
    (encodeUsb id data).getD 19 0 = checksum (encodeUsb id data) := by
  have := usbBody_length id data h
  rw [encodeUsb_eq, checksum_append_of_len _ _ this]
  simp [List.getD, this]

/-- USB round trip: the same for `decode_usb`, behind its checks of marker, length and checksum -/
theorem C06_usb_rt (id : Nat) (data : Bytes) (hid : id < 2^32) (h : data.length ≤ 8) :
    decodeUsb (encodeUsb id data) = .ok (frameOfId id data) := by
  have hc := C06_usb_checksum_valid id data h
  rw [encodeUsb_framed] at hc ⊢
  rw [decodeUsb_framed _ (by simp; omega), if_neg (fun h => h hc.symm)]
  show Res.ok (frameOfId (ofLE (le4 id)) ((data ++ _ ++ _ ++ _).take data.length)) = _
  rw [ofLE_le4 id hid, List.append_assoc, List.append_assoc, List.take_left' rfl]

/-- the checksum exposes ANY single corrupted byte among the 18 checked positions (2..19), for every
one of the 255 wrong values: such a packet is never decoded. Stated for every well-formed 20-byte
packet, not only encoder output. -/
theorem C06_usb_single_corruption (pkt : Bytes) (hl : pkt.length = 20)
    (h0 : pkt.getD 0 0 = 0xaa) (h1 : pkt.getD 1 0 = 0x55) (hb : ∀ b ∈ pkt, b < 256)
    (hc : pkt.getD 19 0 = checksum pkt)
    (i : Nat) (hi : 2 ≤ i ∧ i ≤ 19) (v : Nat) (hv : v < 256) (hne : v ≠ pkt.getD i 0) :
    decodeUsb (pkt.set i v) = .none := by
  obtain ⟨j, rfl⟩ := Nat.exists_eq_add_of_le' hi.1
  match pkt, hl with
  | a :: b :: rest, hl =>
    simp only [List.getD_cons_zero, List.getD_cons_succ] at h0 h1 hc hne
    subst h0 h1
    have hl : rest.length = 18 := by simpa using hl
    rw [checksum_framed] at hc
    rw [List.set_cons_succ, List.set_cons_succ, decodeUsb_framed _ (by rw [List.length_set, hl]), if_pos]
    rw [checksum_framed, List.take_set]
    -- the sum over bytes 2..18 moves by `v - pkt[i]`, which is not a multiple of 256; byte 19 is outside the sum
    have hj : j < rest.length := by omega
    rw [List.getD_eq_getElem?_getD, List.getElem?_set]
    by_cases h17 : j = 17
    · subst h17
      rw [List.set_eq_of_length_le (by rw [List.length_take]; omega), if_pos rfl, if_pos hj, Option.getD_some, ← hc]
      exact hne.symm
    · have hs := sum_set (rest.take 17) j v (by rw [List.length_take]; omega)
      rw [List.getElem_take] at hs
      have hbj : rest[j] < 256 := hb _ (by simp)
      rw [List.getD_eq_getElem?_getD, List.getElem?_eq_getElem hj, Option.getD_some] at hne
      rw [if_neg h17, ← List.getD_eq_getElem?_getD, hc]
      omega

/-- a Yacht Devices packet is one line: CR LF at the end and nowhere else -/
theorem C06_yd_line (id : Nat) (data : Bytes) :
    ∃ body, encodeYd id data = body ++ ['\r', '\n'] ∧ '\r' ∉ body ∧ '\n' ∉ body := by
  have hbody : ∀ c, hexVal c = none → c ≠ ' ' →
      c ∉ toHex 8 id ++ [' '] ++ [' '].intercalate (data.map byteHex) := by
    intro c hc hs hm
    rw [List.mem_append, List.mem_append, List.mem_singleton] at hm
    rcases hm with (hm | hm) | hm
    · exact (allHex_toHex 8 id).not_mem hc hm
    · exact hs hm
    · obtain hm | ⟨t, ht, hm⟩ := mem_intercalate hm
      · exact hs hm
      · obtain ⟨b, _, rfl⟩ := List.mem_map.1 ht
        exact (allHex_byteHex b).not_mem hc hm
  exact ⟨_, rfl, hbody _ rfl (by decide), hbody _ rfl (by decide)⟩

/-- Yacht Devices round trip, once the gateway's `hh:mm:ss.mmm R|T` token is prepended -/
theorem C06_yd_rt (id : Nat) (data : Bytes) (hid : id < 2^32) (hd : 1 ≤ data.length)
    (hb : ∀ b ∈ data, b < 256) (ts dir : List Char) (hts : validHms ts = true) (hsp : ' ' ∉ ts)
    (hne : ts ≠ []) (hdir : dir = ['R'] ∨ dir = ['T']) :
    decodeYd (ts ++ [' '] ++ dir ++ [' '] ++ (encodeYd id data).dropLast.dropLast) = .ok (frameOfId id data) := by
  have := yd_rt_map _root_.id rfl hexVal_hexDigit id data hid hd hb ts dir hts hsp hne hdir
  rwa [List.map_id] at this

/-- Actisense round trip, once an `A<sec>.<ms>` token is prepended — the statement takes the one token `A000001.000` —
(whole payload, any length, the empty payload included) -/
theorem C06_actisense_rt (prio dst src pgn : Nat) (data : Bytes) (hp : prio < 16) (hd : dst < 256)
    (hs : src < 256) (hg : pgn < 2^24) (hb : ∀ b ∈ data, b < 256) :
    decodeActisense ("A000001.000 ".toList ++ encodeActisense prio dst src pgn data) =
      .ok { pgn := pgn, prio := prio, src := src, dst := dst, data := data } := by
  let actStamp : List Char := ['0', '0', '0', '0', '0', '1', '.', '0', '0', '0']
  have e : "A000001.000 ".toList ++ encodeActisense prio dst src pgn data = [' '].intercalate
      ['A' :: actStamp, toHex 5 (src * 4096 + dst * 16 + prio), toHex 5 pgn, (data.map byteHex).flatten] := by
    simp only [encodeActisense, Nat.mod_eq_of_lt hp, Nat.mod_eq_of_lt hd, Nat.mod_eq_of_lt hs,
      Nat.mod_eq_of_lt (show pgn < 16777216 from hg), List.intercalate_cons_cons, List.intercalate_singleton, actStamp]
    simp
  have hx (n) : Tok (toHex 5 n) := ⟨(allHex_toHex 5 n).not_mem rfl, toHex_ne_nil 5 n⟩
  have hdat : ' ' ∉ (data.map byteHex).flatten := fun h => by
    obtain ⟨t, ht, hc⟩ := List.mem_flatten.1 h
    obtain ⟨b, _, rfl⟩ := List.mem_map.1 ht
    exact (allHex_byteHex b).not_mem rfl hc
  rw [e, decodeActisense_tokens _ _ _ _ (by decide) (hx _) (hx _) hdat]
  have h1 : splitOn '.' actStamp = [actStamp.take 6, actStamp.drop 7] := by decide
  have h2 : parseDec (actStamp.take 6) = some 1 := by decide
  have h3 : parseDec (actStamp.drop 7) = some 0 := by decide
  -- the header number is `src | dst | prio` (8, 8 and 4 bits)
  obtain ⟨e1, e2, e3⟩ := unpack3 src hd hp
  have en : src * 4096 + dst * 16 + prio = (src * 256 + dst) * 16 + prio := by rw [Nat.add_mul, Nat.mul_assoc]
  have big : (2 : Nat)^24 < 16^64 := by decide
  have hn : (src * 256 + dst) * 16 + prio < 16^64 := Nat.lt_trans (by omega) big
  rw [decodeActisenseToks, h1]
  simp only [h2, h3, en, parseHex_toHex 5 _ hn, parseHex_toHex 5 pgn (Nat.lt_trans hg big), pairs_byteHex, Option.bind_some,
    allSome_byteHex data hb, show 4096 = 16 * 256 from rfl, ← Nat.div_div_eq_div_mul, e1, e2, e3, Nat.mod_eq_of_lt hs]
  rfl

def cut (n : Nat) : Nat → Bytes → List Bytes
  | 0, _ => []
  | k + 1, s => s.take n :: cut n k (s.drop n)

/-- a concatenation of fixed-size packets is split back into the same packets by cutting every 13
(EByte: `readexactly(13)`) resp. 20 bytes -/
theorem C06_split_fixed (n : Nat) (ps : List Bytes) (h : ∀ p ∈ ps, p.length = n) :
    cut n ps.length ps.flatten = ps := by
  induction ps with
  | nil => rfl
  | cons p ps ih =>
    have hp : p.length = n := h p (by simp)
    simp only [List.length_cons, List.flatten_cons, cut]
    rw [← hp, List.take_left, List.drop_left, hp, ih (fun q hq => h q (by simp [hq]))]

/-- what a message's addressing looks like after a trip over a frame-level format: the PGN (for
addressed PGNs in canonical form), source and priority as sent, the destination as sent for
addressed (PDU1) PGNs and 255 for broadcast (PDU2) PGNs. Composition of the wire round trips
with C05 (`build_header` is the encoder's own identifier packing). -/
def sentFrame (pgn src dst prio : Nat) (data : Bytes) : Frame :=
  { pgn := pgn, prio := prio, src := src, dst := if pgn / 256 % 256 < 240 then dst else 255, data := data }

/-- C05 read at frame level: the identifier the encoder packs parses to the frame that was sent (shared with the
message-level trips of `Props/C06Msg.lean`) -/
theorem frameOfId_build (pgn src dst prio : Nat) (data : Bytes)
    (hp : prio < 8) (hs : src < 256) (hd : dst < 256) (hpgn : pgn < 2^18)
    (hcanon : pgn / 256 % 256 < 240 → pgn % 256 = 0) :
    frameOfId (build_header pgn src dst prio) data = sentFrame pgn src dst prio data := by
  unfold frameOfId sentFrame
  by_cases hpf : pgn / 256 % 256 < 240
  · rw [N2k.C05_build_parse_pdu1 pgn src dst prio hp hs hd hpgn hpf (hcanon hpf), if_pos hpf]
  · rw [N2k.C05_build_parse_pdu2 pgn src dst prio hp hs hd hpgn (Nat.le_of_not_lt hpf), if_neg hpf]

theorem C06_frame_message_rt (pgn src dst prio : Nat) (data : Bytes)
    (hp : prio < 8) (hs : src < 256) (hd : dst < 256) (hpgn : pgn < 2^18)
    (hcanon : pgn / 256 % 256 < 240 → pgn % 256 = 0) (h8 : data.length ≤ 8) :
    decodeTcp (encodeEbyte (build_header pgn src dst prio) data) = .ok (sentFrame pgn src dst prio data) ∧
    decodeUsb (encodeUsb (build_header pgn src dst prio) data) = .ok (sentFrame pgn src dst prio data) := by
  have hlt : build_header pgn src dst prio < 2^32 :=
    Nat.lt_trans (N2k.C05_build_lt pgn src dst prio hp hs hd hpgn) (by decide)
  rw [C06_ebyte_rt _ _ hlt h8, C06_usb_rt _ _ hlt h8, frameOfId_build pgn src dst prio data hp hs hd hpgn hcanon]
  exact ⟨rfl, rfl⟩

-- non-vacuity
example : decodeTcp (encodeEbyte 0x19F80123 [1, 2, 3]) = .ok (frameOfId 0x19F80123 [1, 2, 3]) := by decide +kernel
example : decodeUsb ((encodeUsb 0x19F80123 [1, 2, 3]).set 18 7) = .none := by decide +kernel
example : decodeYd ("12:00:01.5 R ".toList ++ (encodeYd 0x19F80123 [1, 0xAB]).dropLast.dropLast)
    = .ok (frameOfId 0x19F80123 [1, 0xAB]) := by decide +kernel

end N2k.Wire

/-
C01 — decoded fields match the canboat definition for every PGN and payload.

Structure of the argument:
* **Table theorems (kernel, regenerated every run — T1):** every per-definition decoder of the shipped
  `pgns.py` is, statement for statement, `Spec.compileDec` of its database entry
  (`Tables.decNN_eq_compiled`), and the three dictionaries equal the database's enumerations.
* **Generic theorems (this file):** what running a compiled decoder yields, for EVERY database entry
  and EVERY payload: the message names the definition, the fields carry the database's metadata in
  order, each statically positioned field's value is `runOp` of the database-derived codec
  (`Spec.decOp f` — the field's bit length, signedness, resolution, range, lookup table) applied at
  the field's own `BitOffset`, and that result depends only on the bits of the field itself.
* The semantics of the statement shapes (`Interp.runStmts`) and the codecs (`Codec`) are hand models
  tied by T3 against all 442 generated functions (418 per-definition decoders, 24 dispatchers) on
  database-derived boundary payloads.
Helpers in `N2k/Lemmas/Dec01.lean`.
-/
import N2k.Tables.All
import N2k.Lemmas.Dec01
namespace N2k
open N2k.Spec

/-- the shipped per-definition decoders are exactly the compiled database entries -/
theorem C01_code_is_compiled :
    Gen.decFns = (Gen.dbChunks.map (fun c => (groupsOf c).flatMap compileGroupDec)).flatten := by
  simp only [Gen.decFns, Gen.decChunks, Gen.dbChunks, List.map_cons, List.map_nil,
    Tables.dec00_eq_compiled, Tables.dec01_eq_compiled, Tables.dec02_eq_compiled, Tables.dec03_eq_compiled,
    Tables.dec04_eq_compiled, Tables.dec05_eq_compiled, Tables.dec06_eq_compiled, Tables.dec07_eq_compiled,
    Tables.dec08_eq_compiled, Tables.dec09_eq_compiled, Tables.dec10_eq_compiled, Tables.dec11_eq_compiled,
    Tables.dec12_eq_compiled, Tables.dec13_eq_compiled, Tables.dec14_eq_compiled, Tables.dec15_eq_compiled]

/-- a returned message names its definition: PGN, id, description, transmission interval -/
theorem C01_header (env : Env) (g : List PgnDef) (p : PgnDef) (data : Nat) (m : Msg)
    (h : runDec env (compileDec g p) data = .ok m) :
    m.pgn = p.pgn ∧ m.id = p.id ∧ m.desc = p.desc ∧ m.ttlMs = p.interval := by
  obtain ⟨fs, -, rfl⟩ := Dec01.runDec_ok h
  exact ⟨rfl, rfl, rfl, rfl⟩

/-- one field per database field, in order, with the database's id (`reserved_<offset>` for reserved
fields), name, description, unit, physical quantity, type and primary-key flag -/
theorem C01_fields_meta (env : Env) (g : List PgnDef) (p : PgnDef) (data : Nat) (m : Msg)
    (h : runDec env (compileDec g p) data = .ok m) :
    m.fields.map (·.fmeta) = p.fields.map fieldMeta := by
  exact Dec01.compiled_meta h

/-- field orders are 1,2,3,… (a fact about the database, checked on the regenerated tables) -/
def ordersOk (p : PgnDef) : Bool := (p.fields.mapIdx (fun i f => f.order == i + 1)).all id
theorem C01_db_orders : Gen.dbPgns.all ordersOk = true := by decide +kernel

/-- **The value of a statically positioned field** is the database-derived codec applied at the
field's own bit offset (`done` = the fields decoded before it, which only a BINARY field sized by
another field looks at). INDIRECT_LOOKUP fields keep their raw value (`C01_indirect_raw`); their reported value is
patched in afterwards and is not characterised here. -/
theorem C01_field_value (env : Env) (g : List PgnDef) (p : PgnDef) (data : Nat) (m : Msg)
    (h : runDec env (compileDec g p) data = .ok m) (hord : ordersOk p = true)
    (i : Nat) (f : FieldDef) (hf : p.fields[i]? = some f) (o : Nat) (ho : f.bitOffset = some o)
    (hind : f.ftype ≠ "INDIRECT_LOOKUP") :
    ∃ fld off' done, m.fields[i]? = some fld ∧ done.length = i ∧
      runOp env data o done (decOp f) = .ok (fld.value, fld.raw, off') := by
  obtain ⟨fld, v, off', done, h1, h2, h3, h4⟩ :=
    Dec01.compiled_field h (Dec01.orders_of_all p.fields hord) hf ho
  exact ⟨fld, off', done, h1, h2, by rw [h4 hind]; exact h3⟩

/-- the raw value of an INDIRECT_LOOKUP field is the integer at its position -/
theorem C01_indirect_raw (env : Env) (g : List PgnDef) (p : PgnDef) (data : Nat) (m : Msg)
    (h : runDec env (compileDec g p) data = .ok m) (hord : ordersOk p = true)
    (i : Nat) (f : FieldDef) (hf : p.fields[i]? = some f) (o l : Nat) (ho : f.bitOffset = some o)
    (hl : f.bitLength = some l) (hind : f.ftype = "INDIRECT_LOOKUP") :
    ∃ fld, m.fields[i]? = some fld ∧ fld.raw = .int (Straight.decode_int data o l) := by
  obtain ⟨fld, v, off', done, h1, -, h3, -⟩ := Dec01.compiled_field h (Dec01.orders_of_all p.fields hord) hf ho
  refine ⟨fld, h1, ?_⟩
  have hop : decOp f = .indirect l := by
    simp [decOp, hind, withLen, hl]
  rw [hop] at h3
  simp only [runOp, pure, Except.pure, Except.ok.injEq, Prod.mk.injEq] at h3
  exact h3.2.1.symm

/-- width of the ops that read a fixed number of bits -/
def fixedWidth : DecOp → Option Nat
  | .number l _ _ _ _ _ _ => some l
  | .lookup l _ => some l
  | .bitLookup l _ => some l
  | .rawInt l => some l
  | .binary l => some l
  | .stringFix l => some l
  | .float l _ _ => some l
  | .indirect l => some l
  | _ => none

/-- **Exactly the bits at the field's position**: a fixed-width codec sees nothing of the payload but
the `len` bits starting at the offset (and nothing of the earlier fields). -/
theorem C01_locality (env : Env) (op : DecOp) (l : Nat) (hl : fixedWidth op = some l)
    (data data' o : Nat) (done done' : List Field)
    (hb : Straight.decode_int data o l = Straight.decode_int data' o l) :
    runOp env data o done op = runOp env data' o done' op := by
  cases op <;> simp only [fixedWidth, Option.some.injEq, reduceCtorEq] at hl <;> subst hl <;>
    simp only [runOp, decodeNumber, decodeStringFix, decodeFloat, hb]

/-- `decode_int` is the bit field: `(data / 2^o) % 2^l` -/
theorem C01_decode_int_bits (data o l : Nat) : Straight.decode_int data o l = data / 2 ^ o % 2 ^ l := by
  exact Dec01.decode_int_bits data o l

/-- **The effective signedness.** A field with an Offset is stored excess-K: `decode_number` and
`encode_number` read its raw count as UNSIGNED whatever the database's Signed flag says (the 22 power
fields: 32 bits, offset -2000000000, flagged Signed). Without an Offset it is the database flag. -/
theorem C01_effSigned (signed : Bool) (ofs : Lit) :
    effSigned signed ofs = (if ofs.val = 0 then signed else false) := rfl

/-- for an integer Offset: the database flag when the offset is 0, unsigned otherwise -/
theorem C01_effSigned_int (signed : Bool) (o : Int) :
    effSigned signed (Lit.ofInt o) = (if o = 0 then signed else false) := by
  simp only [effSigned, Dec01.ofInt_val, Rat.intCast_eq_zero_iff]

/-- **"Not available" is reported as no value**, and only it: `decode_number` yields `None` exactly
when the (sign-extended) integer is the field's not-available code — all ones for unsigned fields
of 2+ bits, the largest positive value for signed fields of 4+ bits; 1-bit fields have none.
"Signed" is the effective signedness (`C01_effSigned`). -/
theorem C01_na (data off len : Nat) (signed : Bool) (res mn mx ofs : Lit) :
    decodeNumber data off len signed res mn mx ofs = .ok none ↔
      naCode len (effSigned signed ofs) =
        some (if effSigned signed ofs then signExtend (Straight.decode_int data off len) len
              else ((Straight.decode_int data off len : Nat) : Int)) := by
  exact Dec01.decodeNumber_na data off len signed res mn mx ofs

/-- an integer-resolution NUMBER inside its database range decodes (no error) to exactly
raw × resolution + offset, where raw is the field's integer under the effective signedness -/
theorem C01_number_total_int (data off len : Nat) (signed : Bool) (r mn mx o : Int)
    (z : Int) (hz : z = (if effSigned signed (Lit.ofInt o) then signExtend (Straight.decode_int data off len) len
                          else ((Straight.decode_int data off len : Nat) : Int)))
    (hna : naCode len (effSigned signed (Lit.ofInt o)) ≠ some z) (h1 : mn ≤ z * r + o) (h2 : z * r + o ≤ mx) :
    decodeNumber data off len signed (Lit.ofInt r) (Lit.ofInt mn) (Lit.ofInt mx) (Lit.ofInt o) = .ok (some (.int (z * r + o))) := by
  have hz' : z = fieldInt data off len (effSigned signed (Lit.ofInt o)) := hz
  rw [Dec01.decodeNumber_eq, ← hz', if_neg hna]
  exact Dec01.checkRange_int r mn mx _ h1 h2

/-- **The power fields** (32 bits, resolution 1, offset -2000000000, database flag Signed, range
-2000000000 .. 2294967292): every raw count 0 .. 0xFFFFFFFC decodes to raw - 2000000000 — the whole
database range, including the upper half that sign extension would have turned negative. -/
theorem C01_power_field_total (data off : Nat) (h : Straight.decode_int data off 32 ≤ 0xFFFFFFFC) :
    decodeNumber data off 32 true (Lit.ofInt 1) (Lit.ofInt (-2000000000)) (Lit.ofInt 2294967292) (Lit.ofInt (-2000000000)) =
      .ok (some (.int ((Straight.decode_int data off 32 : Nat) - 2000000000))) := by
  have he : effSigned true (Lit.ofInt (-2000000000)) = false := by
    rw [C01_effSigned_int]
    rfl
  refine (C01_number_total_int data off 32 true 1 (-2000000000) 2294967292 (-2000000000)
    ((Straight.decode_int data off 32 : Nat) : Int) ?_ ?_ (by omega) (by omega)).trans ?_
  · rw [he]
    rfl
  · rw [he]
    simp only [naCode]
    intro hh
    have := Option.some.inj hh
    omega
  · congr 3
    omega

/-- equality of decoder results is decidable (for the kernel-evaluated examples below) -/
local instance : DecidableEq (Except DecErr (Option Num)) := fun a b =>
  match a, b with
  | .ok x, .ok y => if h : x = y then isTrue (by rw [h]) else isFalse (fun e => h (Except.ok.inj e))
  | .error x, .error y => if h : x = y then isTrue (by rw [h]) else isFalse (fun e => h (Except.error.inj e))
  | .ok _, .error _ => isFalse (fun e => by cases e)
  | .error _, .ok _ => isFalse (fun e => by cases e)

-- raw 0x80000000 is 147483648 W (not -4147483648), raw 0 is the minimum, raw 0xFFFFFFFC the maximum,
-- raw 0xFFFFFFFF is "not available", and the reserved codes 0xFFFFFFFD/E are above the database maximum
example : decodeNumber 0x80000000 0 32 true (Lit.ofInt 1) (Lit.ofInt (-2000000000)) (Lit.ofInt 2294967292) (Lit.ofInt (-2000000000))
    = .ok (some (.int 147483648)) := by decide +kernel
example : decodeNumber 0 0 32 true (Lit.ofInt 1) (Lit.ofInt (-2000000000)) (Lit.ofInt 2294967292) (Lit.ofInt (-2000000000))
    = .ok (some (.int (-2000000000))) := by decide +kernel
example : decodeNumber 0xFFFFFFFC 0 32 true (Lit.ofInt 1) (Lit.ofInt (-2000000000)) (Lit.ofInt 2294967292) (Lit.ofInt (-2000000000))
    = .ok (some (.int 2294967292)) := by decide +kernel
example : decodeNumber 0xFFFFFFFF 0 32 true (Lit.ofInt 1) (Lit.ofInt (-2000000000)) (Lit.ofInt 2294967292) (Lit.ofInt (-2000000000))
    = .ok none := by decide +kernel
example : decodeNumber 0xFFFFFFFD 0 32 true (Lit.ofInt 1) (Lit.ofInt (-2000000000)) (Lit.ofInt 2294967292) (Lit.ofInt (-2000000000))
    = .error .above := by decide +kernel
-- without an Offset the database flag decides: 0x7FFFFFFF is the signed "not available" code
example : decodeNumber 0x7FFFFFFF 0 32 true (Lit.ofInt 1) (Lit.ofInt (-2147483648)) (Lit.ofInt 2147483645) (Lit.ofInt 0)
    = .ok none := by decide +kernel

-- non-vacuity: PGN 127508 (battery status) is in the database, and its compiled decoder decodes
example : ∃ p ∈ Gen.dbPgns, p.pgn = 127508 ∧ ordersOk p = true ∧
    (runDec ⟨Gen.masterDict, Gen.masterFlagsDict, Gen.masterIndirectDict, Gen.revDicts⟩ (compileDec [p] p) 0).toOption.isSome = true := by
  decide +kernel

end N2k

/-
C06, message level — "for every encodable message and each gateway format the packets produced by the
encoder are accepted by the library's decoder for that format and yield a message with the same PGN,
addressing, priority and field values".

Composition of: the encoder model (`Model/Encoder.lean`: `_encode` glue, fast-packet split, gateway
wrapping, instantiated with the T1 tables), the frame-level wire round trips (C06), the identifier
round trip (C05), and frame-by-frame = pre-assembled (C07).  The theorems say that the wire trip is
TRANSPARENT: what the decoder returns for the encoder's packets is exactly what it returns for the
encoder's payload handed over pre-assembled with the message's own addressing.  That the payload
decodes back to the message's field values is C09/C02 (payload level).
The vocabulary of the statements (`shippedEnc`, `toInput`, `okFrames`, `CanonAddr`, `wholeInput`) stands at the head of
`Lemmas/Enc06.lean`, whose `message_trip` is the theorem for an abstract frame-level format.
-/
import N2k.Lemmas.Enc06
namespace N2k.Enc
open N2k N2k.Dec N2k.Gen N2k.Spec N2k.Straight

/-- **EByte**: every packet is 13 bytes, every packet is accepted by `decode_tcp`, nothing is returned before
the last packet, and the last packet returns exactly what the pre-assembled payload returns — for every
message of a Single or Fast definition of the database that the encoder accepts, any counter, any decoder
configuration and any decoder state whose record does not already hold the counter. -/
theorem C06_message_trip_ebyte (cfg : Config) (st : State) (m : MsgIn) (seq seq' : Nat) (pk : List Bytes)
    (p : PgnDef) (hp : p ∈ dbPgns) (hpg : p.pgn = m.pgn) (hty : p.ptype = "Fast" ∨ p.ptype = "Single")
    (hc : CanonAddr m) (hs : seq < 8) (w : Bool)
    (h0 : ∀ x, Fast.lookup st.table (m.pgn, m.src, m.dst) = some x → x.seq ≠ seq)
    (he : encodeEbyte shippedEnc seq m = .ok (seq', pk)) :
    (∀ q ∈ pk, q.length = 13) ∧
    ∃ B fs, callEncode shippedEnc m = .ok B ∧ okFrames (pk.map Wire.decodeTcp) = some fs ∧
      (let outs := (run shipped cfg st (fs.map (toInput w))).2
       outs.dropLast.all (· = Out.none) = true ∧
       outs.getLast? = some (step shipped cfg st (wholeInput w m B)).2) := by
  obtain ⟨frs, hF, h8f, rfl⟩ := encodeEbyte_inv shippedEnc seq seq' m pk he
  obtain ⟨hsz, h⟩ := message_trip Wire.encodeEbyte Wire.decodeTcp cfg st m seq seq' frs p hp hpg hty hc hs w h0
    (fun _ B _ hfr => h8f B (hfr ▸ List.mem_singleton_self B)) hF fun id hid f _ h8 => Wire.C06_ebyte_rt id f hid h8
  exact ⟨List.forall_mem_map.2 fun f hf => Wire.C06_ebyte_13 _ f (hsz f hf), h⟩

/-- **USB**: same statement with 20-byte packets; a single-frame payload must fit a frame (the USB encoder
does not check it) -/
theorem C06_message_trip_usb (cfg : Config) (st : State) (m : MsgIn) (seq seq' : Nat) (pk : List Bytes)
    (p : PgnDef) (hp : p ∈ dbPgns) (hpg : p.pgn = m.pgn) (hty : p.ptype = "Fast" ∨ p.ptype = "Single")
    (hc : CanonAddr m) (hs : seq < 8) (w : Bool)
    (h0 : ∀ x, Fast.lookup st.table (m.pgn, m.src, m.dst) = some x → x.seq ≠ seq)
    (h8 : p.ptype = "Single" → ∀ B, callEncode shippedEnc m = .ok B → B.length ≤ 8)
    (he : encodeUsb shippedEnc seq m = .ok (seq', pk)) :
    (∀ q ∈ pk, q.length = 20) ∧
    ∃ B fs, callEncode shippedEnc m = .ok B ∧ okFrames (pk.map Wire.decodeUsb) = some fs ∧
      (let outs := (run shipped cfg st (fs.map (toInput w))).2
       outs.dropLast.all (· = Out.none) = true ∧
       outs.getLast? = some (step shipped cfg st (wholeInput w m B)).2) := by
  obtain ⟨frs, hF, rfl⟩ := encodeUsb_inv shippedEnc seq seq' m pk he
  obtain ⟨hsz, h⟩ := message_trip Wire.encodeUsb Wire.decodeUsb cfg st m seq seq' frs p hp hpg hty hc hs w h0
    (fun ht B hB _ => h8 ht B hB) hF fun id hid f _ h8 => Wire.C06_usb_rt id f hid h8
  exact ⟨List.forall_mem_map.2 fun f hf => Wire.C06_usb_20 _ f (hsz f hf), h⟩

/-- **Actisense**: the one line, once a gateway token `A<sec>.<ms>` (here the one token `A000001.000`) is prepended, is accepted and carries
the message's own PGN, addressing, priority and the whole payload (an empty payload included) -/
theorem C06_message_trip_actisense (m : MsgIn) (line : List Char)
    (he : encodeActisense shippedEnc m = .ok line) :
    ∃ B, callEncode shippedEnc m = .ok B ∧
      Wire.decodeActisense ("A000001.000 ".toList ++ line) =
        .ok { pgn := m.pgn, prio := m.prio, src := m.src, dst := m.dst, data := B } := by
  obtain ⟨⟨hp, hs, hg, hd⟩, B, hB, hl⟩ := encodeActisense_inv shippedEnc m line he
  refine ⟨B, hB, ?_⟩
  rw [hl]
  exact Wire.C06_actisense_rt m.prio m.dst m.src m.pgn B (Nat.lt_of_le_of_lt hp (by decide))
    (Nat.lt_of_le_of_lt hd (by decide)) (Nat.lt_of_le_of_lt hs (by decide)) (Nat.lt_of_le_of_lt hg (by decide))
    (callEncode_mk_bytes _ _ _ m B hB)

/-- **The addressing guard of the model is the translated `_check_header`** (T2: `Gen/Straight.lean` is regenerated from
`nmea2000/encoder.py` on every run): the messages every format refuses are exactly those the source's checks reject -/
theorem C06_header_check_translated (m : MsgIn) :
    (7 < m.prio ∨ 255 < m.src ∨ 0x3FFFF < m.pgn ∨ 255 < m.dst) ↔ Straight.check_header m.prio m.src m.pgn m.dst = false := by
  unfold Straight.check_header
  grind

/-- out-of-range addressing is refused by the Actisense encoder exactly as by the three CAN formats -/
theorem C06_actisense_rejects_out_of_range (L : EncLayer) (m : MsgIn)
    (h : 7 < m.prio ∨ 255 < m.src ∨ 0x3FFFF < m.pgn ∨ 255 < m.dst) :
    encodeActisense L m = .raised ∧ ∀ seq, encodeFrames L seq m = .raised := by
  simp [encodeActisense, encodeFrames, h]

/-- the sequence counter advances by one (mod 8) per fast-packet message and not at all otherwise; a refused
message leaves it unchanged by construction (`Res.raised` carries no counter) -/
theorem C06_counter (L : EncLayer) (seq seq' : Nat) (m : MsgIn) (frs : List Bytes)
    (he : encodeFrames L seq m = .ok (seq', frs)) :
    seq' = (if L.isFast m.pgn = .fast then (seq + 1) % 8 else seq) := by
  obtain ⟨_, _, _, B, _, h | h⟩ := encodeFrames_inv L seq seq' m frs he
  · rw [if_pos h.1]
    exact h.2.2.1
  · rw [if_neg h.1]
    exact h.2.2.1

end N2k.Enc

/-
C02 — decoding then re-encoding a payload reproduces it on all defined bits.

* Table theorems (kernel, T1): the shipped encoders are `Spec.compileEnc` of the database entries
  (`Tables.encNN_eq_compiled`), the decoders `Spec.compileDec` (`decNN_eq_compiled`).
* Per-kind round-trip theorems on the codec models (this file): what the decoder reports for a field
  is turned back by the encoder step of that field into exactly the field's bits — numbers up to
  48 bits wide (integer or decimal resolution, with the database Offset for integer resolutions),
  the not-available pattern, lookups, reserved bits, dates, times and durations (exact tick count,
  signed included).
* Message-level theorem: for a definition whose layout is well formed (`EncWF`, a decidable
  predicate checked on the regenerated database), the compiled encoder applied to the compiled
  decoder's output succeeds, has the definition's length, and agrees with the original payload on
  every field's bits.
Fields wider than 48 bits are outside `EncWF` (the property allows double rounding there; one
known finding at the very end of a 64-bit range is recorded in known_findings.json); FLOAT fields
are outside `EncWF` too: no round trip is proved for them.
Helpers in `N2k/Lemmas/Enc02.lean` and `Number02.lean`; the vocabulary of the statements (`contrib`, `accumulate`,
`leNat`, `encFieldOk`, `rangesDisjoint`, `idsUnique`, …) stands at the head of those files.
-/
import N2k.Tables.All
import N2k.Lemmas.Enc02
import N2k.Lemmas.Dec01F
namespace N2k
open N2k.Spec

/-- **NUMBER, integer resolution (with Offset), ≤ 48 bits**: exact round trip -/
theorem C02_number_rt_int (data off len : Nat) (signed : Bool) (r mn mx o : Int) (v : Num)
    (hr : 0 < r) (hl1 : 1 ≤ len) (hl : len ≤ 48) (hs : signed = true → 4 ≤ len)
    (hdec : decodeNumber data off len signed (Lit.ofInt r) (Lit.ofInt mn) (Lit.ofInt mx) (Lit.ofInt o) = .ok (some v)) :
    ∃ n, encodeNumber (numVal v) len signed (Lit.ofInt r) (Lit.ofInt o) = .ok n ∧
      contrib n len = Straight.decode_int data off len := by
  -- with an Offset the field is read unsigned (`effSigned`), so `hs` is only needed without one
  exact Number.number_rt (Number.scales_int _ _ rfl hr rfl) hl1 hl (fun h => hs (Dec01.signed_of_effSigned _ _ h)) hdec

/-- **NUMBER / TIME / DURATION, decimal resolution, ≤ 48 bits**: exact round trip of the tick count
(`round((raw × res) / res) = raw` in binary64) -/
theorem C02_number_rt_float (data off len : Nat) (signed : Bool) (res mn mx : Lit) (v : Num)
    (hf : res.isFloat = true) (hres : pow2 (-1022) ≤ res.exact)
    (hl1 : 1 ≤ len) (hl : len ≤ 48) (hs : signed = true → 4 ≤ len)
    (hdec : decodeNumber data off len signed res mn mx (Lit.ofInt 0) = .ok (some v)) :
    ∃ n, encodeNumber (numVal v) len signed res (Lit.ofInt 0) = .ok n ∧
      contrib n len = Straight.decode_int data off len := by
  exact Number.number_rt (Number.scales_float res hf hres) hl1 hl (fun h => hs (Dec01.signed_of_effSigned _ _ h)) hdec

/-- **absent stays absent**: the not-available pattern decodes to no value, and no value encodes to
the not-available pattern (unsigned ≥ 2 bits: all ones; signed ≥ 4 bits: largest positive) -/
theorem C02_na_rt (data off len : Nat) (signed : Bool) (res mn mx ofs : Lit)
    (hl : 2 ≤ len) (hs : signed = true → 4 ≤ len)
    (hdec : decodeNumber data off len signed res mn mx ofs = .ok none) :
    ∃ n, encodeNumber .none len signed res ofs = .ok n ∧ contrib n len = Straight.decode_int data off len := by
  have _ := hs
  exact ⟨_, Number.encodeNumber_none len signed res ofs (by omega), Number.na_rt data off len signed res mn mx ofs hl hdec⟩

/-- the same for TIME/DURATION fields (`encode_time(None, bits, signed)`) -/
theorem C02_na_time_rt (data off len : Nat) (signed : Bool) (res mn mx : Lit)
    (hl : 4 ≤ len)
    (hdec : decodeNumber data off len signed res mn mx (Lit.ofInt 0) = .ok none) :
    contrib (naTime len signed) len = Straight.decode_int data off len := by
  rw [Number.naTime_eq len signed hl]
  have h := Number.na_rt data off len signed res mn mx _ (by omega) hdec
  rwa [Dec01.effSigned_zero] at h

/-- **TIME / DURATION keep their exact tick count** (the encoder divides the reported raw value by
the resolution and rounds): decimal resolution -/
theorem C02_ticks_rt_float (data off len : Nat) (signed : Bool) (res mn mx : Lit) (v : Num)
    (hf : res.isFloat = true) (hres : pow2 (-1022) ≤ res.exact) (hl : len ≤ 48)
    (hdec : decodeNumber data off len signed res mn mx (Lit.ofInt 0) = .ok (some v)) :
    contrib (rhe (pyDiv v (litNum res))) len = Straight.decode_int data off len := by
  exact Number.ticks_rt (Number.scales_float res hf hres) hl hdec

/-- integer resolution (e.g. minutes: 60) -/
theorem C02_ticks_rt_int (data off len : Nat) (signed : Bool) (r mn mx : Int) (v : Num)
    (hr : 0 < r) (hl : len ≤ 48)
    (hdec : decodeNumber data off len signed (Lit.ofInt r) (Lit.ofInt mn) (Lit.ofInt mx) (Lit.ofInt 0) = .ok (some v)) :
    contrib (rhe (pyDiv v (litNum (Lit.ofInt r)))) len = Straight.decode_int data off len := by
  exact Number.ticks_rt (Number.scales_int _ _ rfl hr rfl) hl hdec

/-- lookups, reserved bits and raw dates: the reported raw integer is the field's bits -/
theorem C02_raw_bits_rt (data off len : Nat) :
    contrib ((Straight.decode_int data off len : Nat) : Int) len = Straight.decode_int data off len := by
  exact Number.contrib_nat _ _ (Dec01.decode_int_lt data off len)

theorem C02_accumulate_read (parts : List (Nat × Nat × Nat)) (hd : disjointRanges parts)
    (hv : ∀ x ∈ parts, x.1 < 2 ^ x.2.1) (x : Nat × Nat × Nat) (hx : x ∈ parts) :
    Straight.decode_int (accumulate parts) x.2.2 x.2.1 = x.1 := by
  exact Enc02.acc_read parts hd hv x hx

/-! ### message level: the layout condition `EncWF` and the round trip of a whole payload -/

/-- layout well-formedness of an encodable definition (decidable; evaluated on the regenerated database) -/
def EncWF (p : PgnDef) : Bool :=
  p.fields.all encFieldOk && rangesDisjoint p.fields && idsUnique p.fields && ordersOk' p &&
  (match p.length with
   | some L => p.fields.all (fun f => match f.bitOffset, f.bitLength with | some o, some l => decide (o + l ≤ 8 * L) | _, _ => false)
   | none => true)
where ordersOk' (p : PgnDef) : Bool := (p.fields.mapIdx (fun i f => f.order == i + 1)).all id

/-- **Decode then re-encode**: for every well-formed encodable definition and every payload the
compiled decoder accepts, the compiled encoder applied to the decoded fields succeeds, yields the
definition's length, and agrees with the original payload on the bits of every field. -/
theorem C02_roundtrip (env : Env) (g : List PgnDef) (p : PgnDef) (hwf : EncWF p = true)
    (data : Nat) (m : Msg) (hdec : runDec env (compileDec g p) data = .ok m) :
    ∃ bytes, runEnc env (compileEnc g p) m.fields = .ok bytes ∧
      (∀ L, p.length = some L → bytes.length = L) ∧
      (∀ f ∈ p.fields, ∀ o l, f.bitOffset = some o → f.bitLength = some l →
        Straight.decode_int (leNat bytes) o l = Straight.decode_int data o l) := by
  simp only [EncWF, EncWF.ordersOk', Bool.and_eq_true] at hwf
  obtain ⟨⟨⟨⟨h1, h2⟩, h3⟩, h4⟩, h5⟩ := hwf
  refine Enc02.roundtrip' env g p h1 h2 h3 h4 (fun L hL f hf o l ho hl => ?_) data m hdec
  rw [hL] at h5
  have := List.all_eq_true.mp h5 f hf
  rw [ho, hl] at this
  exact of_decide_eq_true this

def encTypesOnly (p : PgnDef) : Bool :=
  p.fields.all (fun f => f.bitLength.isSome && f.bitOffset.isSome &&
    (f.ftype = "NUMBER" || f.ftype = "PGN" || f.ftype = "RESERVED" || f.ftype = "FLOAT" || f.ftype = "LOOKUP" ||
     f.ftype = "DATE" || f.ftype = "TIME" || f.ftype = "DURATION"))

/-- which definitions of the shipped database have only encodable field kinds but fall outside
`EncWF` (wide 64-bit fields, one decimal-resolution field with an Offset, one integer resolution
with a decimal range): exactly these — every other encodable definition is covered by `C02_roundtrip` -/
theorem C02_db_coverage :
    ((Gen.dbPgns.filter encTypesOnly).filter (fun p => !EncWF p)).map (fun p => (p.pgn, p.id)) =
      [(127513, "batteryConfigurationStatus"), (129029, "gnssPositionData"), (130818, "furunoSensorSetup")] ∧
    (Gen.dbPgns.filter encTypesOnly).length = 263 := by
  constructor <;> decide +kernel

-- non-vacuity: battery status 127508, voltage raw 1234 (0.01 V) survives decode -> encode
example :
    (match decodeNumber (1234 <<< 8) 8 16 true ⟨1, -2, true⟩ ⟨-32767, -2, true⟩ ⟨32764, -2, true⟩ (Lit.ofInt 0) with
     | .ok (some v) => encodeNumber (numVal v) 16 true ⟨1, -2, true⟩ (Lit.ofInt 0) == .ok 1234
     | _ => false) = true := by decide +kernel

/-- 127513 is outside `EncWF` only through its Peukert Exponent (decimal resolution with an Offset, see `C01_db_peukert` for its parameters):
that field's decode → encode trip is proved for its whole raw domain (`Dec01F.peukert`) — every raw value 0..250 decodes to a value that
encodes back to the same raw value -/
theorem C02_peukert_rt :
    (List.range 251).all (fun z =>
      match decodeNumber (z * 2 ^ 48) 48 8 false ⟨2, -3, true⟩ ⟨1, 0, false⟩ ⟨15, -1, true⟩ ⟨1, 0, false⟩ with
      | .ok (some v) =>
        (match encodeNumber (numVal v) 8 false ⟨2, -3, true⟩ ⟨1, 0, false⟩ with
         | .ok n => decide (n = (z : Int))
         | _ => false)
      | _ => false) = true := by
  refine List.all_eq_true.2 fun z hz => ?_
  obtain ⟨v, hd, -, he⟩ := Dec01F.peukert z (Nat.le_of_lt_succ (List.mem_range.1 hz))
  rw [hd]
  simp only [he, decide_true]

end N2k

/-
C09 — encoding never silently corrupts a value.
Per-kind theorems on the encoder model (`Codec.encodeNumber`, `Interp.runEnc`), composed with the
table theorems (shipped encoders = `Spec.compileEnc` of the database).
The full property does NOT hold on this code base for non-NUMBER kinds: a LOOKUP/RESERVED/DATE/TIME
raw value that does not fit its field is masked, not rejected, and NUMBER values in the reserved
codes between the database maximum and the top code encode to a payload the decoder rejects — both
recorded in known_findings.json.  What is proved: NUMBER fields (nearest tick, range rejection,
absent), missing fields, field locality, and exactness of the other kinds WHEN the given raw fits
(`_partial`: the explicit hypothesis `hfit` is the named gap).
Helpers in `N2k/Lemmas/Number02.lean` (numbers) and `Enc02.lean` (the encoder interpreter).
-/
import N2k.Props.C02
namespace N2k
open N2k.Spec

/-- **A number is encoded as the nearest tick, inside the representable range**: if encoding
succeeds with `n`, then `n` is within half a step of the scaled value and the encoded integer, read
back as a (signed) field value, lies in the representable interval — never wrapped, never clipped.
The interval is that of the EFFECTIVE signedness (`effSigned`, see `C01_effSigned`): a field with an
Offset is stored excess-K, i.e. unsigned whatever the database's Signed flag says. -/
theorem C09_number_nearest_tick (x : Num) (len : Nat) (signed : Bool) (res ofs : Lit) (n : Int)
    (hl : 1 ≤ len) (hres : res.val ≠ 0)
    (h : encodeNumber (numVal x) len signed res ofs = .ok n) :
    ∃ z : Int, |((z : Int) : Rat) - quotient x res ofs| ≤ 1 / 2 ∧
      numLo len (effSigned signed ofs) ≤ z ∧ z ≤ numHi len (effSigned signed ofs) ∧
      contrib n len = contrib z len ∧ 0 ≤ n ∧ n < ((2 ^ len : Nat) : Int) := by
  rw [Number.encodeNumber_num x len signed res ofs hres] at h
  generalize effSigned signed ofs = s at h ⊢
  generalize hz : rhe (quotient x res ofs) = z at h
  split at h
  · cases h
  · cases h
    obtain ⟨w1, w2⟩ := Number.numLo_bounds len s hl
    have w3 := Number.numHi_eq len s hl
    refine ⟨z, ?_, by omega, by omega, ?_, ?_⟩
    · rw [← hz]
      exact rhe_err _
    · split
      · exact Number.contrib_add_pow _ _
      · rfl
    · cases s
      · have : numLo len false = 0 := rfl
        simp only [Bool.false_eq_true, false_and, if_false]
        omega
      · simp only [true_and]
        split <;> omega

/-- **Out of range is rejected**: a value whose nearest tick is outside the representable interval
(of the effective signedness) is an error (one step beyond either end, far out, negative for unsigned). -/
theorem C09_number_range_rejected (x : Num) (len : Nat) (signed : Bool) (res ofs : Lit) (hres : res.val ≠ 0)
    (h : rhe (quotient x res ofs) < numLo len (effSigned signed ofs) ∨
      numHi len (effSigned signed ofs) < rhe (quotient x res ofs)) :
    encodeNumber (numVal x) len signed res ofs = .error .range := by
  rw [Number.encodeNumber_num x len signed res ofs hres, if_pos h]

/-- non-finite numbers are rejected -/
theorem C09_number_nonfinite (len : Nat) (signed : Bool) (res ofs : Lit) :
    encodeNumber .nan len signed res ofs = .error .notFinite ∧
    ∀ b, encodeNumber (.inf b) len signed res ofs = .error .notFinite := by
  exact ⟨rfl, fun _ => rfl⟩

/-- **absent ↦ absent**: no value encodes to the pattern that decodes to no value -/
theorem C09_absent (data off len : Nat) (signed : Bool) (res mn mx ofs : Lit) (n : Int)
    (hl : 2 ≤ len) (hs : signed = true → 4 ≤ len)
    (h : encodeNumber .none len signed res ofs = .ok n)
    (hbits : Straight.decode_int data off len = contrib n len) :
    decodeNumber data off len signed res mn mx ofs = .ok none := by
  rw [Number.encodeNumber_none len signed res ofs (by omega)] at h
  cases h
  rw [Dec01.decodeNumber_na, Number.naCode_eq len _ hl]
  have hs : effSigned signed ofs = true → 4 ≤ len := fun h' => hs (Dec01.signed_of_effSigned _ _ h')
  generalize effSigned signed ofs = s at hs hbits ⊢
  have hn := Number.naVal_eq len s (by omega) hs
  have hp := Int.natCast_pos.2 (Nat.two_pow_pos len)
  exact congrArg some (Number.eq_of_contrib_eq (lo := numLo len s) ⟨by omega, by omega⟩
    (Number.fieldInt_spec data off len s (by omega)) (by rw [Number.contrib_fieldInt, hbits]))

/-- **A missing field is an error**: if some step of the encoder names a field the message does not
have, encoding fails (with the missing-field error or an earlier one) — never a payload. -/
theorem C09_missing_field (env : Env) (fn : EncFn) (fs : List Field) (id name : String) (k : EncKind) (mask off : Nat)
    (hstep : EncStep.field id name k mask off ∈ fn.steps) (hmiss : getField fs id = none) :
    ∀ bytes, runEnc env fn fs ≠ .ok bytes := by
  intro bytes h
  obtain ⟨n, hn, -⟩ := Enc02.runEnc_eq_ok.mp h
  have := ((Enc02.runSteps_eq env fs fn.steps 0 n).mp hn).1 _ hstep
  simp only [Enc02.stepPart, hmiss] at this
  cases this

/-- the integer accumulated by the encoder steps -/
def encInt (env : Env) (fn : EncFn) (fs : List Field) : Except EncErr Nat := runSteps env fs 0 fn.steps

/-- **Locality**: changing one field's value changes only that field's bits. Two messages that differ
only in the field `id` and both encode: the accumulated payload integers agree on the bit range
of every OTHER step whose range is disjoint from `id`'s steps. -/
theorem C09_one_field_locality (env : Env) (fn : EncFn) (fs fs' : List Field) (id : String)
    (hsame : ∀ j, j ≠ id → getField fs j = getField fs' j)
    (a b : Nat) (ha : encInt env fn fs = .ok a) (hb : encInt env fn fs' = .ok b)
    (id' name' : String) (k' : EncKind) (len' off' : Nat)
    (hstep : EncStep.field id' name' k' (2 ^ len' - 1) off' ∈ fn.steps) (hne : id' ≠ id)
    (hdisj : ∀ s ∈ fn.steps, ∀ i n kk l o, s = EncStep.field i n kk (2 ^ l - 1) o → (i = id' ∧ l = len' ∧ o = off') ∨ o + l ≤ off' ∨ off' + len' ≤ o)
    (hmasks : ∀ s ∈ fn.steps, ∀ i n kk mk o, s = EncStep.field i n kk mk o → ∃ l, mk = 2 ^ l - 1) :
    Straight.decode_int a off' len' = Straight.decode_int b off' len' := by
  have _ := hstep
  obtain ⟨ha1, rfl⟩ := (Enc02.runSteps_eq env fs fn.steps 0 a).mp ha
  obtain ⟨hb1, rfl⟩ := (Enc02.runSteps_eq env fs' fn.steps 0 b).mp hb
  rw [Nat.zero_or, Nat.zero_or, Enc02.decode_int_acc, Enc02.decode_int_acc, List.map_filterMap, List.map_filterMap]
  refine congrArg _ (List.filterMap_congr fun s hs => ?_)
  obtain ⟨x, hx⟩ := Option.isSome_iff_exists.mp (ha1 s hs)
  obtain ⟨y, hy⟩ := Option.isSome_iff_exists.mp (hb1 s hs)
  rw [hx, hy]
  refine congrArg some ?_
  show Straight.decode_int (x.1 <<< x.2.2) off' len' = Straight.decode_int (y.1 <<< y.2.2) off' len'
  cases s with
  | noLayout pg nm => cases hx
  | unrecognised w => cases hx
  | field i n kk mk o =>
    obtain ⟨l, rfl⟩ := hmasks _ hs i n kk mk o rfl
    rcases hdisj _ hs i n kk l o rfl with ⟨h, -, -⟩ | hd
    · simp only [Enc02.stepPart, ← hsame i (h ▸ hne)] at hy
      simp only [Enc02.stepPart] at hx
      rw [hx] at hy
      cases hy
      rfl
    · obtain ⟨hx1, hx2⟩ := Enc02.stepPart_field hx
      obtain ⟨hy1, hy2⟩ := Enc02.stepPart_field hy
      have hp := Nat.two_pow_pos l
      rw [hx2, hy2, Dec01.decode_int_shift_disj x.1 o l off' len' (by omega) hd,
        Dec01.decode_int_shift_disj y.1 o l off' len' (by omega) hd]

/-- **Exact kinds, when the raw fits** (`_partial`: without `hfit` the value is masked, see the
known findings): a LOOKUP / DATE raw or a RESERVED value in `0 ≤ v < 2^len` is stored unchanged -/
theorem C09_raw_exact_partial (v : Nat) (len : Nat) (hfit : v < 2 ^ len) : contrib (v : Int) len = v := by
  exact Number.contrib_nat v len hfit

/-- **A DATE given by value** (no raw value): a day count outside `0 .. 2^bits − 2` is rejected, one inside is
stored unchanged (the top code is "not available") — never masked -/
theorem C09_date_value (env : Env) (fm : FieldMeta) (d : Int) (bits : Nat) :
    encValue env ⟨fm, .date d, .none⟩ (.date bits) =
      if d < 0 ∨ d > ((2 ^ bits : Nat) : Int) - 2 then .error .range else .ok d := rfl

-- witness of the gap (documented as a known finding): a RESERVED value that does not fit is wrapped
example : contrib 300 8 = 44 := by decide
-- non-vacuity of C09_number_range_rejected: 655.35 V does not fit 16 bits at 0.01 V (signed)
example : encodeNumber (.flt (rne (65535 / 100))) 16 true ⟨1, -2, true⟩ (Lit.ofInt 0) = .error .range := by decide +kernel

-- the power fields (32 bits, offset -2000000000, database flag Signed) are encoded excess-K over the whole
-- database range: the maximum 2294967292 W is raw 0xFFFFFFFC, 147483648 W is raw 0x80000000; one step beyond
-- either end of the representable interval 0 .. 0xFFFFFFFE is rejected (the reserved codes 0xFFFFFFFD/E above
-- the database maximum are still accepted: the known finding named in the header)
example : encodeNumber (.int 2294967292) 32 true (Lit.ofInt 1) (Lit.ofInt (-2000000000)) = .ok 0xFFFFFFFC := by decide +kernel
example : encodeNumber (.int 147483648) 32 true (Lit.ofInt 1) (Lit.ofInt (-2000000000)) = .ok 0x80000000 := by decide +kernel
example : encodeNumber (.int (-2000000000)) 32 true (Lit.ofInt 1) (Lit.ofInt (-2000000000)) = .ok 0 := by decide +kernel
example : encodeNumber (.int 2294967295) 32 true (Lit.ofInt 1) (Lit.ofInt (-2000000000)) = .error .range := by decide +kernel
example : encodeNumber (.int (-2000000001)) 32 true (Lit.ofInt 1) (Lit.ofInt (-2000000000)) = .error .range := by decide +kernel
example : encodeNumber .none 32 true (Lit.ofInt 1) (Lit.ofInt (-2000000000)) = .ok 0xFFFFFFFF := by decide +kernel

end N2k

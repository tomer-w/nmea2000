/-
C04 — fast-packet reassembly is exact under interleaving, reordering, duplication and loss.
Models: `N2k/Model/Fast.lean` (one stream) and `N2k/Model/FastKeyed.lean` (the table keyed by
(pgn, src, dst)).  Tie: T3.  Property theorems only; `outsOf`, `framesOf`, `isStale`, `seenAll`
and the helpers in `N2k/Lemmas/Fast04.lean`.
-/
import N2k.Lemmas.Fast04
namespace N2k.Fast

/-- **Stream independence.** For every interleaving of frames of different (pgn, src, dst) streams,
what the decoder returns on stream `k` is exactly what it returns for `k`'s frames alone: no bytes
are mixed across streams, and other streams' traffic never disturbs `k`. -/
theorem C04_interleaving (t : Table) (h : List (Key × Bytes)) (k : Key) :
    outsOf k h (runK t h).2 = (run (lookup t k) (framesOf k h)).2 :=
  (congrArg Prod.snd (runK_proj t h k)).symm

/-- and the record of `k` afterwards is the one the isolated run leaves -/
theorem C04_interleaving_state (t : Table) (h : List (Key × Bytes)) (k : Key) :
    lookup (runK t h).1 k = (run (lookup t k) (framesOf k h)).1 :=
  (congrArg Prod.fst (runK_proj t h k)).symm

/-- **Exactness within one message.** Let `F = framesPad seq P pad` be the frames of a message (the
last one possibly padded, total frame size still ≤ 8). Feed its first frame, then ANY sequence `rest`
of its later frames (permuted, duplicated, some missing) mixed with stale frames of older messages,
starting from an empty stream or an unfinished message with another counter. Then:
* every output is `stored`, `ignored` or `complete P` — never another payload, whatever the padding;
* `complete P` is produced at most once;
* it is produced iff all frames of `F` occur, exactly at the position where the last missing one arrives. -/
theorem C04_exact (seq : Nat) (P pad : Bytes) (hs : seq < 8) (hP : P.length ≤ 223)
    (hpad : ∀ f ∈ framesPad seq P pad, f.length ≤ 8)
    (r0 : Option Rec) (h0 : ∀ x, r0 = some x → x.seq ≠ seq)
    (rest : List Bytes)
    (hrest : ∀ f ∈ rest, f ∈ (framesPad seq P pad).tail ∨ isStale seq f) :
    let F := framesPad seq P pad
    let hist := F.head! :: rest
    let outs := (run r0 hist).2
    (∀ o ∈ outs, o = Out.stored ∨ o = Out.ignored ∨ o = Out.complete P) ∧
    (outs.count (Out.complete P) ≤ 1) ∧
    (∀ j, j < hist.length →
      (outs[j]? = some (Out.complete P) ↔
        (seenAll F (hist.take (j + 1)) ∧ ¬ seenAll F (hist.take j)))) := by
  obtain ⟨T, hF, ok⟩ := L04.framesPad_seg seq P pad hs hP hpad
  rw [hF] at hrest ⊢
  intro F hist outs
  have houts : outs = L04.specOuts F P [] hist :=
    congrArg Prod.snd (L04.segment_run ok hs r0 (startsNew_of_seq_ne r0 seq _ h0) rest hrest)
  rw [houts]
  refine ⟨L04.specOuts_sound F P [] hist, L04.specOuts_count F P [] hist, fun j hj => ?_⟩
  exact L04.specOuts_get F P [] hist j hj

/-- after the segment the stream is empty (message delivered) or holds a record with this
message's counter — so the next message, which carries a different counter, starts clean:
after any loss the next complete message on the stream is returned intact (`C03_roundtrip`
and `C04_exact` both accept such a start state). -/
theorem C04_after_segment (seq : Nat) (P pad : Bytes) (hs : seq < 8) (hP : P.length ≤ 223)
    (hpad : ∀ f ∈ framesPad seq P pad, f.length ≤ 8)
    (r0 : Option Rec) (h0 : ∀ x, r0 = some x → x.seq ≠ seq)
    (rest : List Bytes)
    (hrest : ∀ f ∈ rest, f ∈ (framesPad seq P pad).tail ∨ isStale seq f) :
    ∀ x, (run r0 ((framesPad seq P pad).head! :: rest)).1 = some x → x.seq = seq := by
  obtain ⟨T, hF, ok⟩ := L04.framesPad_seg seq P pad hs hP hpad
  rw [hF] at hrest ⊢
  rw [L04.head!_cons, L04.segment_run ok hs r0 (startsNew_of_seq_ne r0 seq _ h0) rest hrest]
  intro x h
  unfold L04.stateOf at h
  split at h
  · cases h
  · cases h
    rfl

/-- the result does not depend on padding bytes beyond the announced length -/
theorem C04_padding_independent (seq : Nat) (P pad pad' : Bytes) (hs : seq < 8) (hP : P.length ≤ 223)
    (hl : pad.length = pad'.length) (hpad : ∀ f ∈ framesPad seq P pad, f.length ≤ 8) :
    (run none (framesPad seq P pad)).2 = (run none (framesPad seq P pad')).2 := by
  have hpad' : ∀ f ∈ framesPad seq P pad', f.length ≤ 8 := by
    obtain ⟨init, a, h⟩ : ∃ init a, frames seq P = init ++ [a] :=
      ⟨_, _, (List.dropLast_concat_getLast (List.cons_ne_nil _ _)).symm⟩
    rw [framesPad_of_concat h] at hpad ⊢
    intro f hf
    rcases List.mem_append.1 hf with hf | hf
    · exact hpad f (List.mem_append_left _ hf)
    · rw [List.mem_singleton.1 hf, List.length_append, ← hl, ← List.length_append]
      exact hpad _ (List.mem_append_right _ (List.mem_singleton_self _))
  rw [run_framesPad seq P pad hs hP hpad none rfl, run_framesPad seq P pad' hs hP hpad' none rfl]

-- non-vacuity: a permuted, duplicated, padded 3-frame message next to a stale frame
example :
    let F := framesPad 3 (List.range 20) [255, 255, 255]
    (run none [F[0]!, F[2]!, [0x41, 9, 9], F[2]!, F[1]!, F[1]!]).2 =
      [.stored, .stored, .ignored, .ignored, .complete (List.range 20), .ignored] := by decide +kernel

end N2k.Fast

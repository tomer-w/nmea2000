/-
C07, fast-packet clause — "a fast-packet message delivered frame by frame through a frame-level
format equals the same payload delivered pre-assembled through a format that carries whole messages".

The frame-level formats (EByte, USB, Yacht Devices, canboat plain per frame) hand each frame to the
decoding core with `already_combined = False`; the whole-message formats (Actisense, canboat plain
combined) hand the payload with `already_combined = True` (`C07.lean`: all of them extract the same
addressing).  Whether the core reassembles is decided by the generated `is_fast_pgn_<pgn>()`.
So the clause needs (1) the shipped `is_fast` table is what the database says (T1, kernel-checked),
(2) for a PGN the table calls fast, frame-wise delivery = pre-assembled delivery (decoder model).
-/
import N2k.Model.Layer
import N2k.Tables.TMisc
import N2k.Props.C16
namespace N2k.Dec
open N2k N2k.Gen N2k.Spec

/-- what the database's `Type` demands of `is_fast_pgn_<pgn>()` -/
def kindOfType (t : String) : FastKind :=
  if t = "Fast" then .fast else if t = "Single" then .single else .raises

/-- the generated layer of the shipped `pgns.py` (regenerated from /repo on every run) -/
def shipped : GenLayer := mkLayer ⟨masterDict, masterFlagsDict, masterIndirectDict, revDicts⟩ decFns disps fasts

/-- (1a) the shipped `is_fast_pgn_*` functions are exactly the ones the database compiles to -/
theorem C07_fast_table : fasts = (groupsOf dbPgns).filterMap compileFast := Tables.fasts_eq_compiled

/-- compiled from the groups of `ps`, `is_fast_pgn_<PGN>()` answers by the first definition of that PGN's group:
any entry for the PGN comes from a group sharing it, which is this group -/
theorem fastKindOf_compiled {ps t : List PgnDef} {q : PgnDef} (hg : q :: t ∈ groupsOf ps) :
    fastKindOf ((groupsOf ps).filterMap compileFast) q.pgn = kindOfType q.ptype := by
  have hq : _ ∈ ((groupsOf ps).filterMap compileFast).filter (·.pgn = q.pgn) :=
    List.mem_filter.2 ⟨List.mem_filterMap.2 ⟨q :: t, hg, rfl⟩, decide_eq_true rfl⟩
  rw [fastKindOf]
  split
  next e h =>
    obtain ⟨he, hk⟩ := List.mem_filter.1 (List.mem_of_getLast? h)
    obtain ⟨g, hg', hc⟩ := List.mem_filterMap.1 he
    cases g with
    | nil => cases hc
    | cons q' t' =>
      cases hc
      cases (pgn_eq_iff_of_mem_groupsOf hg' hg (List.mem_cons_self ..) (List.mem_cons_self ..)).1 (of_decide_eq_true hk)
      rw [kindOfType]
      by_cases h1 : q.ptype = "Fast"
      · rw [if_pos h1, if_pos h1]
      · rw [if_neg h1, if_neg h1]
        by_cases h2 : q.ptype = "Single"
        · rw [if_pos h2, if_pos h2]
        · rw [if_neg h2, if_neg h2]
  next h => exact nomatch List.getLast?_eq_none_iff.1 h ▸ hq

/-- the definitions of a PGN all have the `Type` of the first -/
theorem db_group_types : ∀ g ∈ groupsOf dbPgns, ∀ q ∈ g.head?, ∀ p ∈ g, p.ptype = q.ptype := by
  rw [Tables.groupsOf_dbPgns]
  decide +kernel

/-- (1b) for EVERY definition of the database, `is_fast_pgn_<its PGN>()` answers what its `Type` says
(in particular all definitions sharing a PGN agree on the type) -/
theorem C07_db_fast_kinds : dbPgns.all (fun p => decide (fastKindOf fasts p.pgn = kindOfType p.ptype)) = true := by
  refine List.all_eq_true.2 fun p hp => decide_eq_true ?_
  obtain ⟨g, hg, hpg⟩ := List.mem_flatten.1 ((flatten_groupsOf dbPgns).mem_iff.2 hp)
  cases g with
  | nil => cases hpg
  | cons q t =>
    rw [C07_fast_table, (pgn_eq_iff_of_mem_groupsOf hg hg hpg (List.mem_cons_self ..)).2 rfl,
      db_group_types _ hg q rfl p hpg]
    exact fastKindOf_compiled hg

theorem C07_db_fast_kind (p : PgnDef) (hp : p ∈ dbPgns) : shipped.isFast p.pgn = kindOfType p.ptype := by
  have h := List.all_eq_true.mp C07_db_fast_kinds p hp
  simpa [shipped, mkLayer] using h

/-- (1c) a PGN outside the database has no `is_fast` function (it is reported as unsupported, in every format) -/
theorem C07_outside_db : fasts.all (fun e => dbPgns.any (fun p => p.pgn = e.pgn)) = true := by
  rw [C07_fast_table]
  refine List.all_eq_true.2 fun e he => ?_
  obtain ⟨g, hg, hc⟩ := List.mem_filterMap.1 he
  cases g with
  | nil => cases hc
  | cons p t =>
    cases hc
    exact List.any_eq_true.2 ⟨p, mem_of_mem_groupsOf hg (List.mem_cons_self ..), decide_eq_true rfl⟩

/-- (2) **frame by frame = pre-assembled**, for every fast-packet definition of the database, every
decoder configuration, every decoder state (any history) in which the stream's record does not
already hold this sequence counter, every payload of up to 223 bytes, every sequence counter:
delivering the frames one by one (frame-level format) returns nothing until the last frame, and at
the last frame exactly what the pre-assembled payload returns (whole-message format). -/
theorem C07_framewise_eq_combined (cfg : Config) (st : State) (p : PgnDef) (hp : p ∈ dbPgns) (ht : p.ptype = "Fast")
    (prio src dst seq : Nat) (w : Bool) (P : List Nat) (hs : seq < 8) (hP : P.length ≤ 223)
    (h0 : ∀ x, Fast.lookup st.table (p.pgn, src, dst) = some x → x.seq ≠ seq) :
    let ins := framesInputs p.pgn prio src dst w (Fast.frames seq P)
    let combinedIn : Input := { pgn := p.pgn, prio := prio, src := src, dst := dst, data := P, combined := true, inWindow := w }
    let outs := (run shipped cfg st ins).2
    outs.dropLast.all (· = Out.none) = true ∧
    outs.getLast? = some (step shipped cfg st combinedIn).2 := by
  have hf : shipped.isFast p.pgn = .fast := by
    rw [C07_db_fast_kind p hp, ht]
    rfl
  exact fast_probe shipped cfg st
    { pgn := p.pgn, prio := prio, src := src, dst := dst, data := P, combined := true, inWindow := w } seq P hf hs hP
    (Fast.startsNew_of_seq_ne _ seq _ h0)

/-- (3) a single-frame definition is decoded from the frame alone, identically with and without the
`already_combined` flag — so the five formats agree on single-frame messages once they agree on the frame -/
theorem C07_single_combined_irrelevant (cfg : Config) (st : State) (p : PgnDef) (hp : p ∈ dbPgns) (ht : p.ptype = "Single")
    (i : Input) (hi : i.pgn = p.pgn) :
    step shipped cfg st { i with combined := true } = step shipped cfg st { i with combined := false } := by
  have hf : shipped.isFast p.pgn = .single := by
    rw [C07_db_fast_kind p hp, ht]
    rfl
  exact step_combined_irrelevant shipped cfg st i (hi ▸ hf)

-- non-vacuity: the database has fast definitions, e.g. 129029 (GNSS position data); 127510 is one of the 8-byte ones
example : (dbPgns.filter (fun p => p.ptype = "Fast")).length > 100 := by decide +kernel
example : shipped.isFast 129029 = .fast ∧ shipped.isFast 127510 = .fast ∧ shipped.isFast 127250 = .single ∧ shipped.isFast 1 = .unknown := by
  decide +kernel

end N2k.Dec

/- Table theorems, chunk 12: the generated decoders/encoders of these PGN groups are exactly what the
database entries demand (kernel-checked equality of data; no axioms). -/
import N2k.Gen.Db12
import N2k.Gen.Dec12
import N2k.Gen.Enc12
import N2k.Model.Spec
namespace N2k.Tables
open N2k.Gen N2k.Spec

theorem dec12_eq_compiled : dec12 = (groupsOf db12).flatMap compileGroupDec := by rfl
theorem enc12_eq_compiled : enc12 = (groupsOf db12).flatMap compileGroupEnc := by decide +kernel

end N2k.Tables

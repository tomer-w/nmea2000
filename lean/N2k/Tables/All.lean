/- All table theorems.  Each is an equation between closed data, which the kernel can check by unfolding (`rfl`); that is by
far the cheaper proof: unfolding compares string literals as literals, whereas `decide` runs `String.decEq`, which UTF-8-encodes
every distinct literal in the kernel (about 3 600 heartbeats per character: chunk 08 costs 81 M that way and 2.6 M by `rfl`).
A `rfl` is checked by the elaborator's own evaluator first, so it is used wherever that one gets through at the default
recursion depth.  It does not where a
mask `2 ^ 1784 - 1` has to be computed (223-byte binary fields; `exponentiation.threshold`), where long function names
`<pgn>_<id>` are computed, or where a list has some 200 entries (`fasts`): those theorems are proved by `decide +kernel`.  If
regenerated tables push a `rfl` over the recursion limit, `decide +kernel` proves the same statement.
Grouping all 418 definitions at once is quadratic and dear either way: `TMisc` groups chunk by chunk (`groupsOf_dbPgns`). -/
import N2k.Tables.T00
import N2k.Tables.T01
import N2k.Tables.T02
import N2k.Tables.T03
import N2k.Tables.T04
import N2k.Tables.T05
import N2k.Tables.T06
import N2k.Tables.T07
import N2k.Tables.T08
import N2k.Tables.T09
import N2k.Tables.T10
import N2k.Tables.T11
import N2k.Tables.T12
import N2k.Tables.T13
import N2k.Tables.T14
import N2k.Tables.T15
import N2k.Tables.TMisc
import N2k.Tables.TLk1
import N2k.Tables.TLk2
import N2k.Tables.TLk3

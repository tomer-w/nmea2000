/- Table theorems, chunk 08: the generated decoders/encoders of these PGN groups are exactly what the
database entries demand (kernel-checked equality of data; no axioms). -/
import N2k.Gen.Db08
import N2k.Gen.Dec08
import N2k.Gen.Enc08
import N2k.Model.Spec
namespace N2k.Tables
open N2k.Gen N2k.Spec

theorem dec08_eq_compiled : dec08 = (groupsOf db08).flatMap compileGroupDec := by rfl
theorem enc08_eq_compiled : enc08 = (groupsOf db08).flatMap compileGroupEnc := by rfl

end N2k.Tables

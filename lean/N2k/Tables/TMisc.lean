/- Table theorems over the whole database: dispatchers, is_fast functions, and the chunking itself: no PGN occurs in
two chunks (`chunks_disjoint`), so the database is grouped chunk by chunk (`groupsOf_dbPgns`), which is how the two
tables are evaluated. -/
import N2k.Gen.All
import N2k.Lemmas.Groups
namespace N2k.Tables
open N2k.Gen N2k.Spec

/-- no code for PGNs outside the database, nothing unrecognised at top level -/
theorem no_stray_code : strayCode = [] := by decide +kernel

def chunkPgns : List (List Nat) := dbChunks.map (fun c => (c.map (·.pgn)).eraseDups)
def pairwiseDisjoint : List (List Nat) → Bool
  | [] => true
  | c :: cs => cs.all (fun d => c.all (fun x => !d.contains x)) && pairwiseDisjoint cs
/-- PGN numbers of different chunks are disjoint -/
theorem chunks_disjoint : pairwiseDisjoint chunkPgns = true := by decide +kernel

theorem pairwise_of_pairwiseDisjoint : ∀ {cs : List (List PgnDef)},
    pairwiseDisjoint (cs.map fun c => (c.map (·.pgn)).eraseDups) = true →
      cs.Pairwise fun a b => ∀ x ∈ a, ∀ y ∈ b, x.pgn ≠ y.pgn
  | [], _ => .nil
  | c :: cs, h => by
    rw [List.map_cons, pairwiseDisjoint, Bool.and_eq_true, List.all_eq_true] at h
    refine List.pairwise_cons.2 ⟨fun d hd x hx y hy e => ?_, pairwise_of_pairwiseDisjoint h.2⟩
    have := List.all_eq_true.1 (h.1 _ (List.mem_map_of_mem hd)) x.pgn
      (List.mem_eraseDups.2 (List.mem_map_of_mem hx))
    rw [Bool.not_eq_true', List.contains_eq_mem, decide_eq_false_iff_not, List.mem_eraseDups] at this
    exact this (e ▸ List.mem_map_of_mem hy)

theorem groupsOf_dbPgns : groupsOf dbPgns = dbChunks.flatMap groupsOf :=
  groupsOf_flatten (pairwise_of_pairwiseDisjoint chunks_disjoint)

theorem disps_eq_compiled : disps = (groupsOf dbPgns).filterMap compileDisp := by
  rw [groupsOf_dbPgns]
  decide +kernel

theorem fasts_eq_compiled : fasts = (groupsOf dbPgns).filterMap compileFast := by
  rw [groupsOf_dbPgns]
  decide +kernel

end N2k.Tables

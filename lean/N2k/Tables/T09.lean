/- Table theorems, chunk 09: the generated decoders/encoders of these PGN groups are exactly what the
database entries demand (kernel-checked equality of data; no axioms). -/
import N2k.Gen.Db09
import N2k.Gen.Dec09
import N2k.Gen.Enc09
import N2k.Model.Spec
namespace N2k.Tables
open N2k.Gen N2k.Spec

theorem dec09_eq_compiled : dec09 = (groupsOf db09).flatMap compileGroupDec := by rfl
theorem enc09_eq_compiled : enc09 = (groupsOf db09).flatMap compileGroupEnc := by rfl

end N2k.Tables

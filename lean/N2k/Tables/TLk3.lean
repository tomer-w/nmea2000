/- bit-flag and indirect lookup dictionaries equal the database's -/
import N2k.Gen.CodeLookups
import N2k.Gen.DbLookups
namespace N2k.Tables
open N2k.Gen

theorem master_flags_eq_db : masterFlagsDict = dbBitEnums := by rfl
theorem master_indirect_eq_db : masterIndirectDict = dbIndirectEnums := by rfl

end N2k.Tables

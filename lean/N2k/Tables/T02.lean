/- Table theorems, chunk 02: the generated decoders/encoders of these PGN groups are exactly what the
database entries demand (kernel-checked equality of data; no axioms). -/
import N2k.Gen.Db02
import N2k.Gen.Dec02
import N2k.Gen.Enc02
import N2k.Model.Spec
namespace N2k.Tables
open N2k.Gen N2k.Spec

theorem dec02_eq_compiled : dec02 = (groupsOf db02).flatMap compileGroupDec := by rfl
theorem enc02_eq_compiled : enc02 = (groupsOf db02).flatMap compileGroupEnc := by decide +kernel

end N2k.Tables

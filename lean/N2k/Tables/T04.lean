/- Table theorems, chunk 04: the generated decoders/encoders of these PGN groups are exactly what the
database entries demand (kernel-checked equality of data; no axioms). -/
import N2k.Gen.Db04
import N2k.Gen.Dec04
import N2k.Gen.Enc04
import N2k.Model.Spec
namespace N2k.Tables
open N2k.Gen N2k.Spec

theorem dec04_eq_compiled : dec04 = (groupsOf db04).flatMap compileGroupDec := by rfl
theorem enc04_eq_compiled : enc04 = (groupsOf db04).flatMap compileGroupEnc := by rfl

end N2k.Tables

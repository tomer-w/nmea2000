/- Table theorems, chunk 07: the generated decoders/encoders of these PGN groups are exactly what the
database entries demand (kernel-checked equality of data; no axioms). -/
import N2k.Gen.Db07
import N2k.Gen.Dec07
import N2k.Gen.Enc07
import N2k.Model.Spec
namespace N2k.Tables
open N2k.Gen N2k.Spec

theorem dec07_eq_compiled : dec07 = (groupsOf db07).flatMap compileGroupDec := by rfl
theorem enc07_eq_compiled : enc07 = (groupsOf db07).flatMap compileGroupEnc := by rfl

end N2k.Tables

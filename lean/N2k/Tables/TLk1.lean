/- the value->name lookup dictionaries of pgns.py equal the database's enumerations -/
import N2k.Gen.CodeLookups
import N2k.Gen.DbLookups
namespace N2k.Tables
open N2k.Gen

theorem master_dict_eq_db : masterDict = dbEnums := by rfl

end N2k.Tables

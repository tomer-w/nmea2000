/- Table theorems, chunk 01: the generated decoders/encoders of these PGN groups are exactly what the
database entries demand (kernel-checked equality of data; no axioms). -/
import N2k.Gen.Db01
import N2k.Gen.Dec01
import N2k.Gen.Enc01
import N2k.Model.Spec
namespace N2k.Tables
open N2k.Gen N2k.Spec

theorem dec01_eq_compiled : dec01 = (groupsOf db01).flatMap compileGroupDec := by rfl
theorem enc01_eq_compiled : enc01 = (groupsOf db01).flatMap compileGroupEnc := by decide +kernel

end N2k.Tables

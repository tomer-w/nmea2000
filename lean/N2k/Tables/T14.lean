/- Table theorems, chunk 14: the generated decoders/encoders of these PGN groups are exactly what the
database entries demand (kernel-checked equality of data; no axioms). -/
import N2k.Gen.Db14
import N2k.Gen.Dec14
import N2k.Gen.Enc14
import N2k.Model.Spec
namespace N2k.Tables
open N2k.Gen N2k.Spec

theorem dec14_eq_compiled : dec14 = (groupsOf db14).flatMap compileGroupDec := by rfl
theorem enc14_eq_compiled : enc14 = (groupsOf db14).flatMap compileGroupEnc := by decide +kernel

end N2k.Tables

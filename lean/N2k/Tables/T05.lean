/- Table theorems, chunk 05: the generated decoders/encoders of these PGN groups are exactly what the
database entries demand (kernel-checked equality of data; no axioms). -/
import N2k.Gen.Db05
import N2k.Gen.Dec05
import N2k.Gen.Enc05
import N2k.Model.Spec
namespace N2k.Tables
open N2k.Gen N2k.Spec

theorem dec05_eq_compiled : dec05 = (groupsOf db05).flatMap compileGroupDec := by rfl
theorem enc05_eq_compiled : enc05 = (groupsOf db05).flatMap compileGroupEnc := by rfl

end N2k.Tables

/- Table theorems, chunk 15: the generated decoders/encoders of these PGN groups are exactly what the
database entries demand (kernel-checked equality of data; no axioms). -/
import N2k.Gen.Db15
import N2k.Gen.Dec15
import N2k.Gen.Enc15
import N2k.Model.Spec
namespace N2k.Tables
open N2k.Gen N2k.Spec

theorem dec15_eq_compiled : dec15 = (groupsOf db15).flatMap compileGroupDec := by rfl
theorem enc15_eq_compiled : enc15 = (groupsOf db15).flatMap compileGroupEnc := by decide +kernel

end N2k.Tables

/- Table theorems, chunk 06: the generated decoders/encoders of these PGN groups are exactly what the
database entries demand (kernel-checked equality of data; no axioms). -/
import N2k.Gen.Db06
import N2k.Gen.Dec06
import N2k.Gen.Enc06
import N2k.Model.Spec
namespace N2k.Tables
open N2k.Gen N2k.Spec

theorem dec06_eq_compiled : dec06 = (groupsOf db06).flatMap compileGroupDec := by rfl
theorem enc06_eq_compiled : enc06 = (groupsOf db06).flatMap compileGroupEnc := by rfl

end N2k.Tables

/- Table theorems, chunk 11: the generated decoders/encoders of these PGN groups are exactly what the
database entries demand (kernel-checked equality of data; no axioms). -/
import N2k.Gen.Db11
import N2k.Gen.Dec11
import N2k.Gen.Enc11
import N2k.Model.Spec
namespace N2k.Tables
open N2k.Gen N2k.Spec

theorem dec11_eq_compiled : dec11 = (groupsOf db11).flatMap compileGroupDec := by rfl
theorem enc11_eq_compiled : enc11 = (groupsOf db11).flatMap compileGroupEnc := by decide +kernel

end N2k.Tables

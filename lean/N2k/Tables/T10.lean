/- Table theorems, chunk 10: the generated decoders/encoders of these PGN groups are exactly what the
database entries demand (kernel-checked equality of data; no axioms). -/
import N2k.Gen.Db10
import N2k.Gen.Dec10
import N2k.Gen.Enc10
import N2k.Model.Spec
namespace N2k.Tables
open N2k.Gen N2k.Spec

theorem dec10_eq_compiled : dec10 = (groupsOf db10).flatMap compileGroupDec := by rfl
theorem enc10_eq_compiled : enc10 = (groupsOf db10).flatMap compileGroupEnc := by rfl

end N2k.Tables

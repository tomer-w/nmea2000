/- Table theorems, chunk 03: the generated decoders/encoders of these PGN groups are exactly what the
database entries demand (kernel-checked equality of data; no axioms). -/
import N2k.Gen.Db03
import N2k.Gen.Dec03
import N2k.Gen.Enc03
import N2k.Model.Spec
namespace N2k.Tables
open N2k.Gen N2k.Spec

theorem dec03_eq_compiled : dec03 = (groupsOf db03).flatMap compileGroupDec := by rfl
theorem enc03_eq_compiled : enc03 = (groupsOf db03).flatMap compileGroupEnc := by decide +kernel

end N2k.Tables

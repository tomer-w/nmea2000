/- Table theorems, chunk 13: the generated decoders/encoders of these PGN groups are exactly what the
database entries demand (kernel-checked equality of data; no axioms). -/
import N2k.Gen.Db13
import N2k.Gen.Dec13
import N2k.Gen.Enc13
import N2k.Model.Spec
namespace N2k.Tables
open N2k.Gen N2k.Spec

theorem dec13_eq_compiled : dec13 = (groupsOf db13).flatMap compileGroupDec := by rfl
theorem enc13_eq_compiled : enc13 = (groupsOf db13).flatMap compileGroupEnc := by rfl

end N2k.Tables

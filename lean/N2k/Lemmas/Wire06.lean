/- helper lemmas for Props/C06.lean and Props/C07.lean: the binary packets, then for the text formats the tokeniser,
the numerals (one theory of printing in base `b` for hex and decimal) and what each front end does on well-formed tokens -/
import N2k.Model.Wire
namespace N2k.Wire
open N2k.Straight

/-! ### binary formats: a 32-bit identifier in four bytes, the USB packet and its checksum -/

theorem digits256 (n : Nat) (h : n < 2^32) :
    n % 256 + 256 * (n / 256 % 256 + 256 * (n / 65536 % 256 + 256 * (n / 16777216 % 256))) = n := by
  have := Nat.mod_eq_of_lt h
  rwa [show 2^32 = 256 * (256 * (256 * 256)) from rfl, Nat.mod_mul, Nat.mod_mul, Nat.mod_mul,
    Nat.div_div_eq_div_mul, Nat.div_div_eq_div_mul] at this

theorem ofLE_le4 (n : Nat) (h : n < 2^32) : ofLE (le4 n) = n := digits256 n h

theorem ofBE_be4 (n : Nat) (h : n < 2^32) : ofBE (be4 n) = n := by
  have := digits256 n h
  simp only [ofBE, be4, List.foldl]
  generalize n / 16777216 % 256 = a, n / 65536 % 256 = b, n / 256 % 256 = c, n % 256 = d at this ⊢
  omega

theorem checksum_append_of_len (body : Bytes) (x : Bytes) (h : body.length = 19) :
    checksum (body ++ x) = checksum body := by
  simp only [checksum]
  rw [List.drop_append_of_le_length (by omega), List.take_append_of_le_length (by simp; omega)]

def usbBody (id : Nat) (data : Bytes) : Bytes :=
  [0xaa, 0x55, 1, 2, 1] ++ le4 id ++ [data.length] ++ data ++ List.replicate (8 - data.length) 0 ++ [0]

theorem usbBody_length (id : Nat) (data : Bytes) (h : data.length ≤ 8) : (usbBody id data).length = 19 := by
  simp [usbBody, le4]
  omega

theorem encodeUsb_eq (id : Nat) (data : Bytes) : encodeUsb id data = usbBody id data ++ [checksum (usbBody id data)] := rfl

theorem encodeUsb_framed (id : Nat) (data : Bytes) :
    encodeUsb id data = 0xaa :: 0x55 :: 1 :: 2 :: 1 :: id % 256 :: id / 256 % 256 :: id / 65536 % 256 ::
      id / 16777216 % 256 :: data.length ::
      (data ++ List.replicate (8 - data.length) 0 ++ [0] ++ [checksum (usbBody id data)]) := rfl

theorem checksum_framed (a b : Nat) (rest : Bytes) : checksum (a :: b :: rest) = (rest.take 17).sum % 256 :=
  Nat.and_two_pow_sub_one_eq_mod _ 8

/-- what `decodeUsb` does with 20 well-framed bytes: only the checksum is left to decide -/
theorem decodeUsb_framed (rest : Bytes) (hl : rest.length = 18) :
    decodeUsb (0xaa :: 0x55 :: rest) =
      if checksum (0xaa :: 0x55 :: rest) ≠ rest.getD 17 0 then .none
      else .ok (frameOfId (ofLE ((rest.drop 3).take 4)) ((rest.drop 8).take (rest.getD 7 0))) := by
  simp [decodeUsb, hl]

theorem sum_set (l : List Nat) (i v : Nat) (h : i < l.length) : (l.set i v).sum + l[i] = l.sum + v := by
  induction l generalizing i with
  | nil => cases h
  | cons a l ih =>
    cases i with
    | zero =>
      simp only [List.set_cons_zero, List.sum_cons, List.getElem_cons_zero]
      omega
    | succ i =>
      have := ih i (Nat.lt_of_succ_lt_succ h)
      simp only [List.set_cons_succ, List.sum_cons, List.getElem_cons_succ]
      omega

/-! ### tokens joined by a separator, and split again -/

/-- the model's `splitOn` is core's `List.splitOn` -/
theorem splitOn_go_eq (sep : Char) (s cur : List Char) (acc : List (List Char)) :
    splitOn.go sep cur acc s = acc.reverse ++ List.splitOnPPrepend (· == sep) s cur := by
  induction s generalizing cur acc with
  | nil =>
    rw [splitOn.go, List.reverse_cons]
    rfl
  | cons c s ih =>
    rw [splitOn.go]
    split
    next h =>
      rw [ih, List.splitOnPPrepend_cons_pos (p := (· == sep)) (beq_iff_eq.2 h), List.reverse_cons, List.append_assoc]
      rfl
    next h => rw [ih, List.splitOnPPrepend_cons_neg (p := (· == sep)) (beq_eq_false_iff_ne.2 h)]

theorem splitOn_intercalate (sep : Char) (toks : List (List Char)) (h : ∀ t ∈ toks, sep ∉ t) (hn : toks ≠ []) :
    splitOn sep ([sep].intercalate toks) = toks :=
  (splitOn_go_eq sep _ [] []).trans (List.splitOn_intercalate sep h hn)

theorem splitSpaces_go_eq (cur : List Char) (acc : List (List Char)) (s : List Char) :
    splitSpaces.go cur (acc.filter (!·.isEmpty)) s = (splitOn.go ' ' cur acc s).filter (!·.isEmpty) := by
  induction s generalizing cur acc with
  | nil =>
    simp only [splitSpaces.go, splitOn.go]
    cases cur <;> simp [List.filter_reverse]
  | cons c s ih =>
    simp only [splitSpaces.go, splitOn.go]
    split
    · rw [← ih]
      cases cur <;> simp
    · exact ih ..

/-- `str.split()` is splitting on single spaces and dropping the empty tokens -/
theorem splitSpaces_eq (s : List Char) : splitSpaces s = (splitOn ' ' s).filter (!·.isEmpty) :=
  splitSpaces_go_eq [] [] s

theorem splitSpaces_intercalate (toks : List (List Char)) (h : ∀ t ∈ toks, ' ' ∉ t) (hn : toks ≠ []) :
    splitSpaces ([' '].intercalate toks) = toks.filter (!·.isEmpty) := by
  rw [splitSpaces_eq, splitOn_intercalate ' ' toks h hn]

theorem mem_intercalate {sep c : Char} {toks : List (List Char)} (h : c ∈ [sep].intercalate toks) :
    c = sep ∨ ∃ t ∈ toks, c ∈ t := by
  induction toks with
  | nil => cases h
  | cons t ts ih =>
    cases ts with
    | nil => exact Or.inr ⟨t, List.mem_cons_self .., by rwa [List.intercalate_singleton] at h⟩
    | cons t' ts =>
      rw [List.intercalate_cons_cons, List.mem_append, List.mem_append, List.mem_singleton] at h
      rcases h with (h | h) | h
      · exact Or.inr ⟨t, List.mem_cons_self .., h⟩
      · exact Or.inl h
      · exact (ih h).imp_right fun ⟨x, hx, hc⟩ => ⟨x, List.mem_cons_of_mem _ hx, hc⟩

theorem map_intercalate (f : Char → Char) (sep : Char) (toks : List (List Char)) :
    ([sep].intercalate toks).map f = [f sep].intercalate (toks.map (List.map f)) := by
  induction toks with
  | nil => rfl
  | cons t ts ih =>
    cases ts with
    | nil => simp only [List.map_cons, List.map_nil, List.intercalate_singleton]
    | cons t' ts =>
      rw [List.intercalate_cons_cons, List.map_append, List.map_append, ih]
      simp only [List.map_cons, List.map_nil, List.intercalate_cons_cons]

def Tok (t : List Char) : Prop := ' ' ∉ t ∧ t ≠ []

theorem Tok.isEmpty {t : List Char} (h : Tok t) : t.isEmpty = false := by
  cases t with
  | nil => exact absurd rfl h.2
  | cons _ _ => rfl

theorem splitSpaces_toks (toks : List (List Char)) (h : ∀ t ∈ toks, Tok t) (hn : toks ≠ []) :
    splitSpaces ([' '].intercalate toks) = toks := by
  rw [splitSpaces_intercalate toks (fun t ht => (h t ht).1) hn, List.filter_eq_self]
  intro t ht
  rw [(h t ht).isEmpty]
  rfl

/-! ### printing a number in base `b` and reading it back -/

/-- the recursion shared by `toHexAux` (base 16) and `toDecAux` (base 10) -/
def digits (b : Nat) (dig : Nat → Char) : Nat → Nat → List Char → List Char
  | 0, _, acc => acc
  | fuel + 1, n, acc => if n < b then dig n :: acc else digits b dig fuel (n / b) (dig (n % b) :: acc)

theorem digits_ne_nil {b : Nat} {dig : Nat → Char} : ∀ fuel n acc, fuel ≠ 0 ∨ acc ≠ [] → digits b dig fuel n acc ≠ []
  | 0, _, _, h => h.resolve_left (fun h => h rfl)
  | fuel + 1, n, acc, _ => by
    rw [digits]
    split
    · exact List.cons_ne_nil _ _
    · exact digits_ne_nil fuel _ _ (Or.inr (List.cons_ne_nil _ _))

section
variable {b : Nat} {dig : Nat → Char} (hb : 0 < b)
include hb

theorem digits_all {P : Char → Prop} (hP : ∀ k, k < b → P (dig k)) :
    ∀ fuel n acc, (∀ c ∈ acc, P c) → ∀ c ∈ digits b dig fuel n acc, P c
  | 0, _, _, h => h
  | fuel + 1, n, acc, h => by
    rw [digits]
    split
    · next hn => exact List.forall_mem_cons.2 ⟨hP n hn, h⟩
    · exact digits_all hP fuel _ _ (List.forall_mem_cons.2 ⟨hP _ (Nat.mod_lt _ hb), h⟩)

/-- reading the printed digits back, most significant first, gives the number: `inj` embeds the numbers into
the reader's state (`some` for `parseHex`, `id` for `parseDec`) -/
theorem foldl_digits {β} (step : β → Char → β) (inj : Nat → β)
    (hstep : ∀ a k, k < b → step (inj a) (dig k) = inj (a * b + k)) :
    ∀ fuel n acc, n < b ^ fuel → (digits b dig fuel n acc).foldl step (inj 0) = acc.foldl step (inj n)
  | 0, n, acc, h => by
    rw [Nat.pow_zero, Nat.lt_one_iff] at h
    rw [h]
    rfl
  | fuel + 1, n, acc, h => by
    rw [digits]
    split
    · next hn => rw [List.foldl_cons, hstep 0 n hn, Nat.zero_mul, Nat.zero_add]
    · rw [foldl_digits step inj hstep fuel _ _ (Nat.div_lt_of_lt_mul (by rwa [Nat.pow_succ, Nat.mul_comm] at h)),
        List.foldl_cons, hstep _ _ (Nat.mod_lt _ hb), Nat.div_add_mod']
end

/-! ### hex numerals: `toHex` prints upper-case hex digits only, `parseHex` reads them back -/

theorem hexVal_hexDigit : ∀ k, k < 16 → hexVal (hexDigit k) = some k := by decide

def HexCh (c : Char) : Prop := ∃ k, k < 16 ∧ c = hexDigit k

def AllHex (s : List Char) : Prop := ∀ c ∈ s, HexCh c

/-- every separator of the text formats has `hexVal = none` -/
theorem AllHex.not_mem {s : List Char} (h : AllHex s) {c : Char} (hc : hexVal c = none) : c ∉ s := by
  intro hm
  obtain ⟨k, hk, rfl⟩ := h c hm
  rw [hexVal_hexDigit k hk] at hc
  cases hc

theorem toHexAux_eq : ∀ fuel n acc, toHexAux fuel n acc = digits 16 hexDigit fuel n acc
  | 0, _, _ => rfl
  | fuel + 1, n, acc => by rw [toHexAux, digits, toHexAux_eq fuel]

theorem allHex_toHex (k n : Nat) : AllHex (toHex k n) := by
  intro c hc
  rw [toHex, toHexAux_eq, List.mem_append, List.mem_replicate] at hc
  rcases hc with ⟨_, rfl⟩ | hc
  · exact ⟨0, by decide, by decide⟩
  · exact digits_all (by decide) (fun k hk => ⟨k, hk, rfl⟩) 64 n [] (fun _ h => nomatch h) c hc

theorem allHex_byteHex (b : Nat) : AllHex (byteHex b) :=
  List.forall_mem_cons.2 ⟨⟨_, Nat.mod_lt _ (by decide), rfl⟩,
    List.forall_mem_cons.2 ⟨⟨_, Nat.mod_lt _ (by decide), rfl⟩, fun _ h => nomatch h⟩⟩

theorem toHex_ne_nil (k n : Nat) : toHex k n ≠ [] := by
  rw [toHex, toHexAux_eq]
  exact fun h => digits_ne_nil 64 n [] (Or.inl (by decide)) (List.append_eq_nil_iff.1 h).2

/-- the fold step of `parseHex` -/
def hexStep (acc : Option Nat) (c : Char) : Option Nat :=
  match acc, hexVal c with
  | some a, some v => some (a * 16 + v)
  | _, _ => none

theorem parseHex_eq (s : List Char) (h : s ≠ []) : parseHex s = s.foldl hexStep (some 0) := by
  unfold parseHex
  rw [if_neg (by simpa using h)]
  rfl

theorem hexStep_digit (a k : Nat) (hk : k < 16) : hexStep (some a) (hexDigit k) = some (a * 16 + k) := by
  simp only [hexStep, hexVal_hexDigit k hk]

theorem foldl_hexStep_zeros (m : Nat) (s : List Char) :
    (List.replicate m '0' ++ s).foldl hexStep (some 0) = s.foldl hexStep (some 0) := by
  induction m with
  | zero => rfl
  | succ m ih => rw [List.replicate_succ, List.cons_append, List.foldl_cons, show hexStep (some 0) '0' = some 0 from rfl, ih]

theorem parseHex_toHex (k n : Nat) (h : n < 16 ^ 64) : parseHex (toHex k n) = some n := by
  rw [parseHex_eq _ (toHex_ne_nil k n), toHex, foldl_hexStep_zeros, toHexAux_eq,
    foldl_digits (by decide) hexStep some hexStep_digit 64 n [] h]
  rfl

theorem parseHex_byteHex (b : Nat) (h : b < 256) : parseHex (byteHex b) = some b := by
  rw [byteHex, parseHex_eq _ (List.cons_ne_nil _ _), List.foldl_cons, List.foldl_cons,
    hexStep_digit _ _ (Nat.mod_lt _ (by decide)), hexStep_digit _ _ (Nat.mod_lt _ (by decide))]
  exact congrArg some (by omega)

theorem allSome_byteHex (data : Bytes) (hb : ∀ b ∈ data, b < 256) :
    allSome ((data.map byteHex).map parseHex) = some data := by
  induction data with
  | nil => rfl
  | cons b bs ih =>
    simp only [List.map_cons, parseHex_byteHex b (hb b (by simp)), allSome,
      ih (fun x hx => hb x (by simp [hx]))]
    rfl

theorem pairs_byteHex (data : Bytes) : pairs (data.map byteHex).flatten = some (data.map byteHex) := by
  induction data with
  | nil => rfl
  | cons b bs ih => simp [byteHex, pairs, ih]

/-! ### hex tokens in either case: `f` is the identity or `lowerHex` -/

section
variable {f : Char → Char} (hf : ∀ k, k < 16 → hexVal (f (hexDigit k)) = some k)
include hf

theorem parseHex_map (t : List Char) (ht : AllHex t) (hn : t ≠ []) : parseHex (t.map f) = parseHex t := by
  rw [parseHex_eq _ hn, parseHex_eq _ (by simpa using hn)]
  clear hn
  generalize some 0 = a
  induction t generalizing a with
  | nil => rfl
  | cons c t ih =>
    obtain ⟨k, hk, rfl⟩ := ht c (List.mem_cons_self ..)
    rw [List.map_cons, List.foldl_cons, List.foldl_cons, ih (fun x hx => ht x (List.mem_cons_of_mem _ hx))]
    simp only [hexStep, hf k hk, hexVal_hexDigit k hk]

theorem tok_map {t : List Char} (ht : AllHex t) (hn : t ≠ []) : Tok (t.map f) := by
  refine ⟨fun hm => ?_, by simpa using hn⟩
  obtain ⟨c, hc, e⟩ := List.mem_map.1 hm
  obtain ⟨k, hk, rfl⟩ := ht c hc
  have := hf k hk
  rw [e] at this
  cases this
end

/-! ### decimal numerals: `parseDec` reads back what `toDec` prints -/

/-- `"%d"` rendering used by the canboat plain format -/
def toDecAux : Nat → Nat → List Char → List Char
  | 0, _, acc => acc
  | fuel + 1, n, acc => if n < 10 then Char.ofNat (48 + n) :: acc else toDecAux fuel (n / 10) (Char.ofNat (48 + n % 10) :: acc)
/-- Python's `"%d"` has no limit; fuel 40 makes the model exact below `10^40` (`parseDec_toDec`), far above every field of a frame -/
def toDec (n : Nat) : List Char := toDecAux 40 n []

theorem toDecAux_eq : ∀ fuel n acc, toDecAux fuel n acc = digits 10 (fun d => Char.ofNat (48 + d)) fuel n acc
  | 0, _, _ => rfl
  | fuel + 1, n, acc => by rw [toDecAux, digits, toDecAux_eq fuel]

theorem decDigit_facts : ∀ d, d < 10 → isDigit (Char.ofNat (48 + d)) = true ∧ (Char.ofNat (48 + d)).toNat - 48 = d := by
  decide

theorem toDec_digits (n : Nat) : ∀ c ∈ toDec n, isDigit c = true := by
  rw [toDec, toDecAux_eq]
  exact digits_all (by decide) (fun d hd => (decDigit_facts d hd).1) 40 n [] (fun _ h => nomatch h)

theorem parseDec_toDec (n : Nat) (h : n < 10 ^ 40) : parseDec (toDec n) = some n := by
  have hne : toDec n ≠ [] := by
    rw [toDec, toDecAux_eq]
    exact digits_ne_nil 40 n [] (Or.inl (by decide))
  have hall : (toDec n).all isDigit = true := List.all_eq_true.2 (toDec_digits n)
  rw [parseDec, if_neg (by simp [hne, hall]), toDec, toDecAux_eq]
  exact congrArg some (foldl_digits (by decide) (fun a c => a * 10 + (c.toNat - 48)) id
    (fun a d hd => congrArg (a * 10 + ·) (decDigit_facts d hd).2) 40 n [] h)

theorem yd_rt_map (f : Char → Char) (hf0 : f ' ' = ' ')
    (hf : ∀ k, k < 16 → hexVal (f (hexDigit k)) = some k)
    (id : Nat) (data : Bytes) (hid : id < 2^32) (hd : 1 ≤ data.length)
    (hb : ∀ b ∈ data, b < 256) (ts dir : List Char) (hts : validHms ts = true) (hsp : ' ' ∉ ts)
    (hne : ts ≠ []) (hdir : dir = ['R'] ∨ dir = ['T']) :
    decodeYd (ts ++ [' '] ++ dir ++ [' '] ++ ((encodeYd id data).dropLast.dropLast).map f) = .ok (frameOfId id data) := by
  have hx {t : List Char} (ht : AllHex t) (hn : t ≠ []) := And.intro (tok_map hf ht hn) (parseHex_map hf t ht hn)
  obtain ⟨b, bs, rfl⟩ := List.exists_cons_of_ne_nil (List.ne_nil_of_length_pos hd)
  have e : ts ++ [' '] ++ dir ++ [' '] ++ ((encodeYd id (b :: bs)).dropLast.dropLast).map f =
      [' '].intercalate (ts :: dir :: (toHex 8 id).map f :: ((b :: bs).map byteHex).map (List.map f)) := by
    rw [encodeYd, List.dropLast_append_cons, List.dropLast_cons_cons, List.dropLast_singleton, List.dropLast_concat]
    simp only [List.map_append, List.map_cons, List.map_nil, map_intercalate, hf0, List.intercalate_cons_cons,
      List.append_assoc]
  have hp : (((b :: bs).map byteHex).map (List.map f)).map parseHex = ((b :: bs).map byteHex).map parseHex := by
    rw [List.map_map]
    refine List.map_congr_left fun t ht => ?_
    obtain ⟨b, _, rfl⟩ := List.mem_map.1 ht
    exact (hx (allHex_byteHex b) (List.cons_ne_nil _ _)).2
  rw [e, decodeYd, splitSpaces_toks _ (List.forall_mem_cons.2 ⟨⟨hsp, hne⟩, List.forall_mem_cons.2
    ⟨by rcases hdir with rfl | rfl <;> exact ⟨by decide, by decide⟩,
    List.forall_mem_cons.2 ⟨(hx (allHex_toHex 8 id) (toHex_ne_nil 8 id)).1, fun t ht => ?_⟩⟩⟩) (List.cons_ne_nil _ _)]
  · have hd : ¬ (dir ≠ ['R'] ∧ dir ≠ ['T']) := by
      rcases hdir with rfl | rfl <;> simp
    have hall : ((b :: bs).all (· < 256)) = true := List.all_eq_true.2 fun x hx => decide_eq_true (hb x hx)
    -- the match of `decodeYd` needs the first byte token in sight; `hp` speaks of the whole list
    rw [List.map_cons, List.map_cons]
    simp only [hd, hts, (hx (allHex_toHex 8 id) (toHex_ne_nil 8 id)).2, parseHex_toHex 8 id (Nat.lt_trans hid (by decide)),
      ← List.map_cons, hp, allSome_byteHex _ hb, hall, if_true, if_false, not_true_eq_false]
  · obtain ⟨t', ht', rfl⟩ := List.mem_map.1 ht
    obtain ⟨c, _, rfl⟩ := List.mem_map.1 ht'
    exact (hx (allHex_byteHex c) (List.cons_ne_nil _ _)).1

/-- what `decodeActisense` does on four space-free tokens, the last of them possibly empty: `split()` drops an empty
payload token, and the three-token branch of the decoder supplies the empty payload again -/
theorem decodeActisense_tokens (ts hdr pgnTok dataTok : List Char) (hts : ' ' ∉ ts) (hh : Tok hdr) (hg : Tok pgnTok)
    (hd : ' ' ∉ dataTok) :
    decodeActisense ([' '].intercalate [('A' :: ts), hdr, pgnTok, dataTok]) = decodeActisenseToks ts hdr pgnTok dataTok := by
  rw [decodeActisense, splitSpaces_intercalate _ (List.forall_mem_cons.2 ⟨List.not_mem_cons_of_ne_of_not_mem (by decide) hts,
    List.forall_mem_cons.2 ⟨hh.1, List.forall_mem_cons.2 ⟨hg.1, List.forall_mem_cons.2 ⟨hd, fun _ h => absurd h List.not_mem_nil⟩⟩⟩⟩)
    (List.cons_ne_nil _ _)]
  cases dataTok with
  | nil => simp only [List.filter, List.isEmpty_cons, List.isEmpty_nil, hh.isEmpty, hg.isEmpty, Bool.not_false, Bool.not_true]
  | cons c cs => simp only [List.filter, List.isEmpty_cons, hh.isEmpty, hg.isEmpty, Bool.not_false]

end N2k.Wire

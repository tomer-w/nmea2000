/- helper lemmas for Props/C16.lean: what an input that is not reassembled returns depends on the state only through the
identity of its source (`step_out_nonfast`), a fast-packet message frame by frame against the pre-assembled payload
(`fast_probe`), states that differ in the dump only (`Sim`), and dropping inputs that changed nothing from a history
(`garbage_removal`) -/
import N2k.Lemmas.DecStep
namespace N2k.Dec

theorem step_out_nonfast (G : GenLayer) (cfg : Config) {s1 s2 : State} {i : Input}
    (hk : i.combined = true ∨ G.isFast i.pgn ≠ .fast)
    (hs : lookupSrc s1.sources i.src = lookupSrc s2.sources i.src) : (step G cfg s1 i).2 = (step G cfg s2 i).2 := by
  rw [step_out, step_out, core, core, preOf_congr cfg hs, hs]
  rcases route_nonfast hk with h | ⟨b, h⟩ <;> rw [h, h]

/-! ### a whole fast-packet message frame by frame returns, at its last frame, what the pre-assembled payload returns -/

theorem run_filtered (G : GenLayer) (cfg : Config) (st : State) (i : Input) (hp : preOf cfg st i = none) :
    ∀ (fs : List (List Nat)),
      (run G cfg st (fs.map (fun f => { i with data := f, combined := false }))).2 = List.replicate fs.length Out.none := by
  intro fs
  induction fs with
  | nil => rfl
  | cons f fs ih =>
    rw [List.map_cons, run_cons, step_filtered (i := { i with data := f, combined := false }) hp, ih]
    rfl

/-- frames stored one after the other, the last completing payload `P`: nothing until the last frame, then
what `P` decodes to in the state before the first (the frames change only their stream's record) -/
theorem run_frames_dec (G : GenLayer) (cfg : Config) (i : Input) (hf : G.isFast i.pgn = .fast)
    (iso : Option IsoName) (P : List Nat) :
    ∀ (fs : List (List Nat)) (n : Nat) (st : State), preOf cfg st i = some iso →
      (Fast.run (Fast.lookup st.table (i.pgn, i.src, i.dst)) fs).2 =
        List.replicate n Fast.Out.stored ++ [Fast.Out.complete P] →
      (run G cfg st (fs.map (fun f => { i with data := f, combined := false }))).2 =
        List.replicate n Out.none ++ [(step G cfg st { i with data := P, combined := true }).2] := by
  intro fs
  induction fs with
  | nil =>
    intro n st _ h
    simp [Fast.run] at h
  | cons f fs ih =>
    intro n st hp h
    rw [Fast.run_cons] at h
    have hr := route_fast (G := G) (i := { i with data := f, combined := false }) rfl hf st.table
    rw [List.map_cons, run_cons]
    cases n with
    | zero =>
      simp only [List.replicate_zero, List.nil_append, List.cons.injEq] at h
      obtain ⟨h1, h2⟩ := h
      have hfs : fs = [] := by
        have := Fast.run_length (Fast.keep (Fast.lookup st.table (i.pgn, i.src, i.dst)) f) fs
        rw [h2] at this
        exact List.eq_nil_of_length_eq_zero this.symm
      subst hfs
      dsimp only at hr
      rw [h1] at hr
      rw [step_out, step_out, core, core, hr, route_single (Or.inl rfl)]
      rfl
    | succ n =>
      simp only [List.replicate_succ, List.cons_append, List.cons.injEq] at h
      obtain ⟨h1, h2⟩ := h
      dsimp only at hr
      rw [h1] at hr
      rw [step_route_error (i := { i with data := f, combined := false }) hp hr]
      simp only [List.replicate_succ, List.cons_append]
      have hl := Fast.lookup_stepK st.table (i.pgn, i.src, i.dst) (i.pgn, i.src, i.dst) f
      rw [if_pos rfl] at hl
      have := ih n { st with table := (Fast.stepK st.table (i.pgn, i.src, i.dst) f).1 } hp (by
        dsimp only
        rw [hl]
        exact h2)
      refine congrArg _ (this.trans ?_)
      exact congrArg _ (congrArg (fun o => [o]) (step_out_nonfast G cfg (Or.inl rfl) rfl))

theorem fast_probe (G : GenLayer) (cfg : Config) (st : State) (i : Input) (seq : Nat) (P : List Nat)
    (hf : G.isFast i.pgn = .fast) (hs : seq < 8) (hP : P.length ≤ 223)
    (hnew : Fast.startsNew (Fast.lookup st.table (i.pgn, i.src, i.dst)) seq (P.length :: P.take 6) = true) :
    let outs := (run G cfg st ((Fast.frames seq P).map (fun f => { i with data := f, combined := false }))).2
    outs.dropLast.all (· = Out.none) = true ∧
    outs.getLast? = some (step G cfg st { i with data := P, combined := true }).2 := by
  intro outs
  have hlen : (Fast.frames seq P).length = ((Fast.frames seq P).length - 1) + 1 := by
    simp only [Fast.frames, List.length_cons]
    omega
  cases hp : preOf cfg st i with
  | none =>
    have : outs = _ := run_filtered G cfg st i hp _
    rw [this, hlen, List.replicate_succ', step_filtered (i := { i with data := P, combined := true }) hp]
    simp
  | some iso =>
    have hr := congrArg Prod.snd (Fast.run_frames_new seq P hs hP _ hnew)
    have : outs = _ := run_frames_dec G cfg i hf iso P (Fast.frames seq P) _ st hp hr
    rw [this]
    simp

/-- two states a later result cannot tell apart: same reassembly table, same source map (the dump log is write-only) -/
def Sim (s1 s2 : State) : Prop := s1.table = s2.table ∧ s1.sources = s2.sources

theorem Sim.refl (s : State) : Sim s s := ⟨rfl, rfl⟩
theorem Sim.symm {s1 s2 : State} (h : Sim s1 s2) : Sim s2 s1 := ⟨h.1.symm, h.2.symm⟩
theorem Sim.trans {s1 s2 s3 : State} (h : Sim s1 s2) (h' : Sim s2 s3) : Sim s1 s3 :=
  ⟨h.1.trans h'.1, h.2.trans h'.2⟩

theorem core_sim (G : GenLayer) (cfg : Config) {s1 s2 : State} (i : Input) (h : Sim s1 s2) :
    core G cfg s1 i = core G cfg s2 i := by
  rw [core, core, preOf_congr cfg (congrArg (lookupSrc · i.src) h.2), h.1, h.2]

theorem step_sim (G : GenLayer) (cfg : Config) (s1 s2 : State) (i : Input) (h : Sim s1 s2) :
    (step G cfg s1 i).2 = (step G cfg s2 i).2 ∧ Sim (step G cfg s1 i).1 (step G cfg s2 i).1 := by
  rw [step_eq, step_eq, core_sim G cfg i h]
  exact ⟨rfl, rfl, rfl⟩

theorem run_sim (G : GenLayer) (cfg : Config) (st st' : State) (is : List Input) (hs : Sim st st') :
    (run G cfg st is).2 = (run G cfg st' is).2 := by
  have := (run_rel (f := id) (g := id) (fun s s' i h => And.symm (step_sim G cfg s s' i h)) is st st' hs).2
  rwa [List.map_id, List.map_id] at this

/-- keep the elements whose mask bit is `true` -/
def pick {α : Type} : List Bool → List α → List α
  | true :: ks, x :: xs => x :: pick ks xs
  | false :: ks, _ :: xs => pick ks xs
  | _, _ => []

/-- every input the mask drops was, where it stood in the full history, rejected with an error or ignored (`raised` / `none`) and left
reassembly table and source map as they were — which `C16_rejected_drops_ok` shows for every single-frame or pre-assembled input that is
filtered, unknown, undecodable or raises (anything but a decodable address claim) -/
def DropsOk (G : GenLayer) (cfg : Config) : State → List Input → List Bool → Prop
  | st, i :: is, k :: ks =>
    (k = false → ((step G cfg st i).2 = .raised ∨ (step G cfg st i).2 = .none) ∧
                 (step G cfg st i).1.table = st.table ∧ (step G cfg st i).1.sources = st.sources) ∧
    DropsOk G cfg (step G cfg st i).1 is ks
  | _, _, _ => True

theorem garbage_removal (G : GenLayer) (cfg : Config) (st st' : State) (is : List Input) (ks : List Bool)
    (hl : ks.length = is.length) (hs : Sim st st') (hd : DropsOk G cfg st is ks) :
    (run G cfg st' (pick ks is)).2 = pick ks (run G cfg st is).2 := by
  induction is generalizing st st' ks with
  | nil =>
    cases ks with
    | nil => rfl
    | cons k ks => cases k <;> rfl
  | cons i is ih =>
    cases ks with
    | nil => cases hl
    | cons k ks =>
      have hl' : ks.length = is.length := by simpa using hl
      obtain ⟨hk, hd'⟩ := hd
      rw [run_cons]
      cases k with
      | false =>
        obtain ⟨_, ht, hso⟩ := hk rfl
        have h1 : Sim (step G cfg st i).1 st' := Sim.trans ⟨ht, hso⟩ hs
        exact ih _ _ ks hl' h1 hd'
      | true =>
        obtain ⟨h1, h2⟩ := step_sim G cfg st st' i hs
        show (run G cfg st' (i :: pick ks is)).2 = _
        rw [run_cons, ← h1, ih _ _ ks hl' h2 hd']
        rfl

end N2k.Dec

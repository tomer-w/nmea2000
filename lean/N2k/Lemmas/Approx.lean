/-
Forward error analysis for short binary64 computations: `Approx x x₀ e B` says the computed `x` is within `e`
of the exact `x₀`, and `|x₀| ≤ B`.  Each arithmetic step and each rounding has one rule; a conversion is analysed
by chaining the rules along its expression and comparing two numerals at the end.
-/
import N2k.Lemmas.F64

namespace N2k

structure Approx (x x₀ e B : ℚ) : Prop where
  err : |x - x₀| ≤ e
  mag : |x₀| ≤ B

theorem Dec.mul_err (x c c0 B e : ℚ) (hx : |x| ≤ B) (hc : |c - c0| ≤ e) :
    |x * c - x * c0| ≤ B * e := by
  rw [← mul_sub, abs_mul]
  exact mul_le_mul hx hc (abs_nonneg _) (le_trans (abs_nonneg _) hx)

namespace Approx
variable {x x₀ e B y y₀ e' B' : ℚ}

theorem exact (h : |x| ≤ B) : Approx x x 0 B := ⟨by rw [sub_self, abs_zero], h⟩

theorem abs_le (h : Approx x x₀ e B) : |x| ≤ B + e := by
  linarith [abs_sub_abs_le_abs_sub x x₀, h.err, h.mag]

theorem add (h : Approx x x₀ e B) (h' : Approx y y₀ e' B') :
    Approx (x + y) (x₀ + y₀) (e + e') (B + B') :=
  ⟨by rw [add_sub_add_comm]; exact (abs_add_le _ _).trans (add_le_add h.err h'.err),
   (abs_add_le _ _).trans (add_le_add h.mag h'.mag)⟩

theorem sub (h : Approx x x₀ e B) (h' : Approx y y₀ e' B') :
    Approx (x - y) (x₀ - y₀) (e + e') (B + B') :=
  ⟨by rw [sub_sub_sub_comm]; exact (abs_sub _ _).trans (add_le_add h.err h'.err),
   (abs_sub _ _).trans (add_le_add h.mag h'.mag)⟩

theorem mul (h : Approx x x₀ e B) (h' : Approx y y₀ e' B') :
    Approx (x * y) (x₀ * y₀) ((B + e) * e' + B' * e) (B * B') := by
  refine ⟨?_, by rw [abs_mul]; exact mul_le_mul h.mag h'.mag (abs_nonneg _) ((abs_nonneg _).trans h.mag)⟩
  have h1 := Dec.mul_err x y y₀ _ e' h.abs_le h'.err
  have h2 := Dec.mul_err y₀ x x₀ B' e h'.mag h.err
  rw [mul_comm y₀, mul_comm y₀] at h2
  exact (abs_sub_le _ (x * y₀) _).trans (add_le_add h1 h2)

/-- a divisor bounded away from zero -/
theorem inv {L : ℚ} (h : Approx y y₀ e B) (hL : e < L) (hy : L ≤ |y₀|) :
    Approx y⁻¹ y₀⁻¹ (e / ((L - e) * L)) L⁻¹ := by
  have hL0 : 0 < L := (abs_nonneg _).trans_lt (h.err.trans_lt hL)
  have hy' : L - e ≤ |y| := by linarith [abs_sub_abs_le_abs_sub y₀ y, abs_sub_comm y y₀, h.err]
  have hy0 : y ≠ 0 := abs_pos.mp (by linarith)
  have hy₀ : y₀ ≠ 0 := abs_pos.mp (by linarith)
  refine ⟨?_, by rw [abs_inv]; exact inv_anti₀ hL0 hy⟩
  rw [inv_sub_inv hy0 hy₀, abs_div, abs_mul, abs_sub_comm]
  exact div_le_div₀ ((abs_nonneg _).trans h.err) h.err (mul_pos (by linarith) hL0)
    (mul_le_mul hy' hy (by linarith) (abs_nonneg _))

theorem rne (h : Approx x x₀ e B) : Approx (rne x) x₀ (e + (B + e + 1) / 2 ^ 53) B := by
  refine ⟨(abs_sub_le _ x _).trans ?_, h.mag⟩
  have h1 := rne_err_abs x
  have h2 : pow2 (-1075) ≤ pow2 (-53) := pow2_le_pow2 (by norm_num)
  rw [pow2_m53] at h1 h2
  have h3 := mul_le_mul_of_nonneg_left h.abs_le (by norm_num : (0:ℚ) ≤ 1 / 2 ^ 53)
  linarith [h.err]

/-- a constant that Python rounds when it reads it -/
theorem const {q : ℚ} (h : |q| ≤ B) : Approx (N2k.rne q) q ((B + 1) / 2 ^ 53) B := by
  simpa using (exact h).rne

/-- `round(x, k)`: half a unit of the `k`-th decimal, then one rounding -/
theorem pyRoundN (h : Approx x x₀ e B) (k : ℕ) :
    Approx (pyRoundN x k) x₀ (e + 1 / (2 * 10 ^ k) + (B + (e + 1 / (2 * 10 ^ k)) + 1) / 2 ^ 53) B := by
  refine Approx.rne ⟨(abs_sub_le _ x _).trans ?_, h.mag⟩
  have hD : (0:ℚ) < ((10 ^ k : ℕ) : ℚ) := by positivity
  have := rhe_err (x * ((10 ^ k : ℕ) : ℚ))
  rw [add_comm e]
  refine add_le_add ?_ h.err
  rw [div_sub' hD.ne', abs_div, abs_of_pos hD, mul_comm _ x]
  refine (div_le_div_of_nonneg_right this hD.le).trans_eq ?_
  push_cast
  rw [div_div]

end Approx

-- `9007199254740992 = 2^53`
theorem Dec.pyRoundN_err (x B : ℚ) (k : ℕ) (hB : |x| ≤ B) :
    |pyRoundN x k - x| ≤ 1 / (2 * 10 ^ k) + (B + 2) / 9007199254740992 := by
  refine ((Approx.exact hB).pyRoundN k).err.trans ?_
  have : (1:ℚ) / (2 * 10 ^ k) ≤ 1 :=
    div_le_one_of_le₀ (by linarith [one_le_pow₀ (M₀ := ℚ) (a := 10) (n := k) (by norm_num)]) (by positivity)
  norm_num at this ⊢
  linarith

end N2k

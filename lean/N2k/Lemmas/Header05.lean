/- helper lemmas for Props/C05.lean: `&&& >>> <<< |||` on `Nat` as `% / * +` (masks are remainders, the OR of adjacent bit
fields is a sum), and with them `extract_header` of `Gen/Straight.lean` in `/ % * +` -/
import N2k.Gen.Straight
namespace N2k
open Straight

theorem and_mask (x n : Nat) (m : Nat) (h : m = 2^n - 1) : x &&& m = x % 2^n := by
  subst h
  exact Nat.and_two_pow_sub_one_eq_mod x n

theorem shl_or (a b i : Nat) (h : b < 2^i) : (a <<< i) ||| b = a * 2^i + b := by
  rw [← Nat.shiftLeft_add_eq_or_of_lt h, Nat.shiftLeft_eq]

/-- two adjacent bit fields, the lower of width `i`, both `j` bits up: rewriting with this and then with `shl_or`
turns `a <<< (i + j) ||| b <<< j ||| c` into `(a * 2^i + b) * 2^j + c` -/
theorem shl_or_shl (a b i j : Nat) (hb : b < 2^i) : a <<< (i + j) ||| b <<< j = (a * 2^i + b) <<< j := by
  rw [Nat.shiftLeft_add, ← Nat.shiftLeft_or_distrib, shl_or a b i hb]

/-- the 18-bit PGN field is `dp | pf | ps` (2, 8 and 8 bits) -/
theorem pgn_fields (x : Nat) : (x / 65536 % 4 * 256 + x / 256 % 256) * 256 + x % 256 = x % 262144 := by
  rw [show 262144 = 256 * (256 * 4) from rfl, Nat.mod_mul, Nat.mod_mul, Nat.div_div_eq_div_mul]
  generalize x / (256 * 256) % 4 = a, x / 256 % 256 = b, x % 256 = c
  omega

theorem extract_header_eq (id : Nat) :
    extract_header id =
      (if id / 256 % 262144 / 256 % 256 < 240 then id / 256 % 262144 - id / 256 % 262144 % 256 else id / 256 % 262144,
       id % 256, if id / 256 % 262144 / 256 % 256 < 240 then id / 256 % 262144 % 256 else 255, id / 67108864 % 8) := by
  unfold extract_header
  simp only [and_mask _ 8 255 rfl, and_mask _ 18 262143 rfl, and_mask _ 3 7 rfl, and_mask _ 2 3 rfl,
    Nat.shiftRight_eq_div_pow, shl_or_shl _ _ 8 8 (Nat.mod_lt _ (Nat.two_pow_pos 8)),
    shl_or _ _ 8 (Nat.mod_lt _ (Nat.two_pow_pos 8))]
  simp only [Nat.shiftLeft_eq, Nat.reducePow]
  have hf : id / 256 % 262144 < 262144 := Nat.mod_lt _ (by decide)
  generalize id / 256 % 262144 = f at hf ⊢
  have := pgn_fields f
  rw [Nat.mod_eq_of_lt hf] at this
  rw [this, Nat.eq_sub_of_add_eq this]
  split <;> rfl

theorem unpack3 (a : Nat) {b c i j : Nat} (hb : b < i) (hc : c < j) :
    ((a * i + b) * j + c) % j = c ∧ ((a * i + b) * j + c) / j % i = b ∧ ((a * i + b) * j + c) / j / i = a := by
  have hj : 0 < j := Nat.zero_lt_of_lt hc
  have hi : 0 < i := Nat.zero_lt_of_lt hb
  rw [Nat.mul_comm _ j, Nat.mul_add_mod, Nat.mod_eq_of_lt hc, Nat.mul_add_div hj, Nat.div_eq_of_lt hc, Nat.add_zero,
    Nat.mul_comm a i, Nat.mul_add_mod, Nat.mod_eq_of_lt hb, Nat.mul_add_div hi, Nat.div_eq_of_lt hb, Nat.add_zero]
  exact ⟨rfl, rfl, rfl⟩

theorem low_byte (x d : Nat) (hd : d < 256) : (x - x % 256 + d) / 256 = x / 256 ∧ (x - x % 256 + d) % 256 = d := by
  omega

end N2k

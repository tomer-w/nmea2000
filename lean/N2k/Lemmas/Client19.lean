/- Invariants of the client LTS: the receive queue (C12), the send lock and the links (C19). -/
import N2k.Lemmas.ClientStep
namespace N2k.Client

/-- the wire log restricted to its send ids -/
def sids (w : List (Nat × Nat × Nat)) : List Nat := w.map (·.2.1)

/-- every send's packets form one contiguous block of the wire log -/
def contiguous (l : List Nat) : Prop :=
  ∀ a b c x y, l = a ++ [x] ++ b ++ [y] ++ c → x = y → ∀ z ∈ b, z = x

/-! ## the receive queue (C12): what was delivered followed by what is queued is what was put, after every event -/

theorem qstep_inv {s s' : QS} {e : QEv} (h : qstep s e = some s')
    (hi : s.delivered ++ s.queue = s.puts) : s'.delivered ++ s'.queue = s'.puts := by
  cases e with
  | put m =>
    cases h
    simp [← hi]
  | cbStart m =>
    simp only [qstep] at h
    split at h
    · next hq =>
      split at h
      · next hc =>
        cases h
        simp_all
      · cases h
    · cases h
  | cbEnd r =>
    simp only [qstep] at h
    split at h <;> cases h
    exact hi

theorem qrun_inv (evs : List QEv) {s0 s : QS} (h : qrun s0 evs = some s)
    (hi : s0.delivered ++ s0.queue = s0.puts) : s.delivered ++ s.queue = s.puts := by
  induction evs generalizing s0 with
  | nil =>
    cases h
    exact hi
  | cons e es ih =>
    obtain ⟨s1, h1, h2⟩ := Option.bind_eq_some_iff.1 h
    exact ih h2 (qstep_inv h1 hi)

theorem contig_nil : contiguous [] := by
  intro a b c x y h
  simp at h

theorem contig_snoc {l : List Nat} {x : Nat} (hc : contiguous l) (hx : x ∉ l ∨ l.getLast? = some x) :
    contiguous (l ++ [x]) := by
  intro a b c u y h huy z hz
  rcases List.eq_nil_or_concat c with rfl | ⟨c', x', rfl⟩
  · rw [List.append_nil] at h
    obtain ⟨hl, hxy⟩ := List.append_inj' h rfl
    simp only [List.cons.injEq, and_true] at hxy
    subst hxy
    subst huy
    have hmem : u ∈ l := by
      rw [hl]
      simp
    rcases hx with hx | hx
    · exact absurd hmem hx
    · rcases List.eq_nil_or_concat b with rfl | ⟨b', w, rfl⟩
      · simp at hz
      · rw [List.concat_eq_append] at hl hz
        rw [hl, ← List.append_assoc, List.getLast?_concat] at hx
        simp only [Option.some.injEq] at hx
        subst hx
        rcases List.mem_append.1 hz with hz | hz
        · exact hc a b' [] w w (by rw [hl]; simp) rfl z hz
        · simpa using hz
  · rw [List.concat_eq_append, ← List.append_assoc] at h
    obtain ⟨hl, -⟩ := List.append_inj' h rfl
    exact hc a b c' u y hl huy z hz

theorem find?_filter_ne (l : List (Nat × Nat)) {sid sid' : Nat} (h : sid' ≠ sid) :
    (l.filter (·.1 ≠ sid)).find? (·.1 = sid') = l.find? (·.1 = sid') := by
  rw [List.find?_filter]
  congr 1
  funext a
  by_cases ha : a.1 = sid'
  · simp [ha, h]
  · simp [ha]

theorem nextIdx_setIdx (l : List (Nat × Nat)) (sid n sid' : Nat) :
    nextIdx (setIdx l sid n) sid' = if sid' = sid then n else nextIdx l sid' := by
  unfold nextIdx setIdx
  by_cases h : sid' = sid
  · subst h
    simp
  · have h' : ¬ sid = sid' := fun e => h e.symm
    rw [if_neg h, List.find?_cons]
    simp only [h', decide_false]
    rw [find?_filter_ne l h]

/-! ### while a send holds the lock only it writes: each message is one block of the wire log, in index order, on one link -/

structure SendInv (s : CS) : Prop where
  /-- a send with a packet on the wire holds the lock, has returned, or has failed -/
  wireIds : ∀ x ∈ sids s.wire, s.lockHolder = some x ∨ x ∈ s.doneSends ∨ x ∈ s.failedSends
  /-- (send ids are not reused) -/
  activeNotDone : ∀ x ∈ s.activeSends, x ∉ s.doneSends
  contig : contiguous (sids s.wire)
  /-- the lock holder, once it has written, wrote the last packet -/
  last : ∀ h, s.lockHolder = some h → h ∈ sids s.wire → (sids s.wire).getLast? = some h
  /-- a send's packets are on the wire in the order 0, 1, …, up to the index of its next packet -/
  order : ∀ sid, (s.wire.filter (·.2.1 = sid)).map (·.2.2) = List.range (nextIdx s.sendNext sid)
  /-- the link of every written packet is the one recorded for its send at the first packet -/
  link : ∀ e ∈ s.wire, s.sendConn.find? (·.1 = e.2.1) = some (e.2.1, e.1)

theorem SendInv.frame {s t : CS} {e : Ev} (hi : SendInv s) (F : Frame s e t) (h1 : e.isLock = false)
    (h2 : e.isWrite = false) : SendInv t := by
  obtain ⟨a1, a2, a3, a4⟩ := F.lock h1
  obtain ⟨b1, b2, b3⟩ := F.wire h2
  cases hi
  constructor <;> simp only [a1, a2, a3, a4, b1, b2, b3] <;> assumption

theorem sendInv_init : SendInv init := by
  constructor <;> simp [init, sids, contig_nil, nextIdx]

theorem step_sendInv {s t : CS} {e : Ev} (h : step s e = some t) (hi : SendInv s) : SendInv t := by
  cases e with
  | sendCall sid =>
    obtain ⟨hg, rfl⟩ := step_guard h
    simp at hg
    refine ⟨hi.wireIds, ?_, hi.contig, hi.last, hi.order, hi.link⟩
    intro x hx
    dsimp only at hx ⊢
    rcases List.mem_cons.1 hx with rfl | hx
    · exact hg.2
    · exact hi.activeNotDone x hx
  | write c sid idx =>
    obtain ⟨hg, rfl⟩ := step_guard h
    simp at hg
    obtain ⟨⟨⟨⟨⟨hact, hlock⟩, hidx⟩, hconn⟩, hwc⟩, hnf⟩ := hg
    have hlast : sid ∉ sids s.wire ∨ (sids s.wire).getLast? = some sid := by
      by_cases hm : sid ∈ sids s.wire
      · right
        rcases hi.wireIds sid hm with h1 | h1 | h1
        · exact hi.last sid h1 hm
        · exact absurd h1 (hi.activeNotDone sid hact)
        · exact absurd h1 hnf
      · exact Or.inl hm
    refine ⟨?_, hi.activeNotDone, ?_, ?_, ?_, ?_⟩
    · -- `wireIds`: the writer holds the lock afterwards
      intro x hx
      dsimp only at hx ⊢
      rw [sids, List.map_append, List.mem_append] at hx
      rcases hx with hx | hx
      · rcases hi.wireIds x hx with h1 | h1 | h1
        · left
          rcases hlock with h2 | h2 <;> rw [h2] at h1
          · cases h1
          · exact h1
        · exact Or.inr (Or.inl h1)
        · exact Or.inr (Or.inr h1)
      · simp at hx
        left
        rw [hx]
    · dsimp only
      rw [sids, List.map_append]
      exact contig_snoc hi.contig hlast
    · intro h hh _
      dsimp only at hh ⊢
      cases hh
      simp [sids]
    · -- `order`: the guard says `idx` is the send's next index
      intro sid'
      dsimp only
      rw [nextIdx_setIdx, List.filter_append, List.map_append]
      by_cases hs : sid' = sid
      · subst hs
        simp [List.range_succ, hi.order, hidx]
      · have hs' : ¬ sid = sid' := fun e => hs e.symm
        simp [hs, hs', hi.order]
    · -- `link`: a later packet goes to the recorded link (`linkOk`), the first one records its link
      intro e he
      dsimp only at he ⊢
      rw [List.mem_append] at he
      cases hf : s.sendConn.find? (·.1 = sid) with
      | some p =>
        have hp : p.1 = sid := by simpa using List.find?_some hf
        simp only [linkOk, hf] at hconn
        simp only [Option.isSome_some, if_true]
        rcases he with he | he
        · exact hi.link e he
        · simp only [List.mem_singleton] at he
          subst he
          dsimp only
          have hconn' : p.2 = c := by simpa using hconn
          rw [hf, ← hp, ← hconn']
      | none =>
        simp only [Option.isSome_none, Bool.false_eq_true, if_false]
        rcases he with he | he
        · have hl := hi.link e he
          rw [List.find?_cons]
          by_cases hes : sid = e.2.1
          · rw [← hes, hf] at hl
            cases hl
          · simp only [hes, decide_false]
            exact hl
        · simp only [List.mem_singleton] at he
          subst he
          simp
  | writeFail c sid =>
    obtain ⟨hg, rfl⟩ := step_guard h
    simp at hg
    refine ⟨?_, hi.activeNotDone, hi.contig, ?_, hi.order, hi.link⟩
    · intro x hx
      dsimp only at hx ⊢
      rcases hi.wireIds x hx with h1 | h1 | h1
      · rcases hg.1.2 with h2 | h2 <;> rw [h2] at h1 <;> cases h1
        right
        right
        simp
      · exact Or.inr (Or.inl h1)
      · exact Or.inr (Or.inr (List.mem_cons_of_mem _ h1))
    · intro h hh
      cases hh
  | drainFail c =>
    dsimp only [step, stepCore] at h
    split at h
    · next sid hl =>
      obtain ⟨-, rfl⟩ := step_guard h
      refine ⟨?_, hi.activeNotDone, hi.contig, ?_, hi.order, hi.link⟩
      · intro x hx
        dsimp only at hx ⊢
        rcases hi.wireIds x hx with h1 | h1 | h1
        · rw [hl] at h1
          cases h1
          right
          right
          simp
        · exact Or.inr (Or.inl h1)
        · exact Or.inr (Or.inr (List.mem_cons_of_mem _ h1))
      · intro h hh
        cases hh
    · cases h
  | sendReturn sid =>
    obtain ⟨hg, rfl⟩ := step_guard h
    refine ⟨?_, ?_, hi.contig, ?_, hi.order, hi.link⟩
    · intro x hx
      dsimp only at hx ⊢
      rcases hi.wireIds x hx with h1 | h1 | h1
      · by_cases hxs : x = sid
        · subst hxs
          right
          left
          simp
        · left
          rw [h1, if_neg (by simpa using hxs)]
      · exact Or.inr (Or.inl (List.mem_cons_of_mem _ h1))
      · exact Or.inr (Or.inr h1)
    · intro x hx
      dsimp only at hx ⊢
      rw [List.mem_filter] at hx
      intro hd
      rcases List.mem_cons.1 hd with rfl | hd
      · simp at hx
      · exact hi.activeNotDone x hx.1 hd
    · intro h hh hm
      dsimp only at hh hm ⊢
      split at hh
      · cases hh
      · exact hi.last h hh hm
  | _ => exact hi.frame (step_frame h) rfl rfl

theorem run_sendInv {evs : List Ev} {s : CS} (h : runTrace init evs = some s) : SendInv s :=
  runTrace_preserves step_sendInv h sendInv_init

/-! ### links: a link that was reported CONNECTED and has been replaced is shut; faults are only recorded for links that exist -/

structure Links (s : CS) : Prop where
  /-- no connect holds the lock: nothing of an attempt is pending -/
  idle : s.connActive = false → s.okConn = none ∧ s.lastFailed = false ∧ s.implPending = false
  /-- a successful attempt whose report is pending: its link is the current one -/
  okConnCurrent : ∀ c, s.okConn = some c → s.conn = some c ∧ s.lastFailed = false ∧ s.implPending = false
  pendingNotFailed : s.implPending = true → s.lastFailed = false
  /-- while CONNECTED the connect that holds the lock (it is about to return) neither retries nor attempts -/
  connectedNoRetry : s.connActive = true → s.st = .connected → s.lastFailed = false ∧ s.implPending = false
  fresh : ∀ c ∈ s.everConnected, c < s.nextConn
  freshConn : ∀ c, s.conn = some c → c < s.nextConn
  /-- DISCONNECTED after CONNECTED: the link that was given up is shut -/
  disc : s.st = .disconnected → ∀ c, s.conn = some c → c ∈ s.everConnected → c ∈ s.writerClosed
  /-- an attempt is only made when the link it will replace is shut (or was never reported CONNECTED) -/
  pend : s.implPending = true → ∀ c, s.conn = some c → c ∈ s.everConnected → c ∈ s.writerClosed
  replacedShut : ∀ c ∈ s.everConnected, s.conn ≠ some c → c ∈ s.writerClosed
  sends : ∀ p ∈ s.sendConn, p.2 < s.nextConn
  faulted : ∀ c ∈ s.faulted, c < s.nextConn

theorem Links.linkOk {s : CS} (hi : Links s) {sid c : Nat} (h : linkOk s sid c = true) : c < s.nextConn := by
  unfold Client.linkOk at h
  split at h
  · next p hf =>
    rw [← of_decide_eq_true h]
    exact hi.sends p (List.mem_of_find?_eq_some hf)
  · exact hi.freshConn c (of_decide_eq_true h)

theorem Links.fault {s : CS} (hi : Links s) {c : Nat} (hc : c < s.nextConn) :
    ∀ x ∈ c :: s.faulted, x < s.nextConn := by
  intro x hx
  rcases List.mem_cons.1 hx with rfl | hx
  · exact hc
  · exact hi.faulted x hx

theorem Links.frame {s t : CS} {e : Ev} (hi : Links s) (F : Frame s e t) (h1 : e.isStatus = false)
    (h2 : e.isAttempt = false) (h4 : e.isShut = false) (h5 : e.isWrite = false) (h6 : e.isFault = false) :
    Links t := by
  obtain ⟨a1, -, a2⟩ := F.status h1
  obtain ⟨b1, b2, b3, b4, c1, c2⟩ := F.attempt h2
  obtain ⟨-, d1, -⟩ := F.wire h5
  have e1 := F.shut h4
  have f1 := F.faulted h6
  cases hi
  constructor <;> simp only [a1, a2, b1, b2, b3, b4, c1, c2, d1, e1, f1] <;> assumption

theorem links_init : Links init := by
  constructor <;> simp [init]

theorem step_links {s t : CS} {e : Ev} (h : step s e = some t) (hi : Links s) : Links t := by
  cases e with
  | connReturn =>
    rcases step_ite h with ⟨-, -, rfl⟩ | ⟨-, -, rfl⟩
    · exact { hi with }
    · exact { hi with idle := fun _ => ⟨rfl, rfl, rfl⟩, okConnCurrent := nofun, pendingNotFailed := nofun, connectedNoRetry := nofun, pend := nofun }
  | implStart =>
    rcases step_ite h with ⟨hact, hg, rfl⟩ | ⟨hact, hg, rfl⟩
    · simp only [Bool.and_eq_true, Bool.not_eq_true', decide_eq_true_eq, ne_eq] at hg
      obtain ⟨⟨⟨hncl, hnp⟩, hlf⟩, hsl⟩ := hg
      have hok : s.okConn = none := by
        cases ho : s.okConn with
        | none => rfl
        | some c =>
          have := (hi.okConnCurrent c ho).2.1
          rw [hlf] at this
          cases this
      have hst : s.st = .disconnected := by
        cases hs : s.st with
        | disconnected => rfl
        | connected =>
          have := (hi.connectedNoRetry hact hs).1
          rw [hlf] at this
          cases this
        | closed => exact absurd hs hncl
      refine { hi with idle := ?_, okConnCurrent := ?_, pendingNotFailed := fun _ => rfl, connectedNoRetry := ?_, pend := fun _ => hi.disc hst }
      · intro hc
        rw [hact] at hc
        cases hc
      · intro c hc
        rw [hok] at hc
        cases hc
      · intro _ hc
        rw [hst] at hc
        cases hc
    · simp only [Bool.and_eq_true, decide_eq_true_eq] at hg
      obtain ⟨⟨hst, -⟩, -⟩ := hg
      obtain ⟨hok, hlf, -⟩ := hi.idle (by simpa using hact)
      refine { hi with idle := nofun, okConnCurrent := ?_, pendingNotFailed := fun _ => hlf, connectedNoRetry := ?_, pend := fun _ => hi.disc hst }
      · intro c hc
        rw [hok] at hc
        cases hc
      · intro _ hc
        rw [hst] at hc
        cases hc
  | implFail =>
    obtain ⟨hg, rfl⟩ := step_guard h
    have hok : s.okConn = none := by
      cases ho : s.okConn with
      | none => rfl
      | some c =>
        have := (hi.okConnCurrent c ho).2.2
        rw [hg] at this
        cases this
    have hact : s.connActive = true := by
      cases ha : s.connActive with
      | true => rfl
      | false =>
        have := (hi.idle ha).2.2
        rw [hg] at this
        cases this
    refine { hi with idle := ?_, okConnCurrent := ?_, pendingNotFailed := nofun, connectedNoRetry := ?_, pend := nofun }
    · intro hc
      rw [hact] at hc
      cases hc
    · intro c hc
      rw [hok] at hc
      cases hc
    · intro _ hc
      have := (hi.connectedNoRetry hact hc).2
      rw [hg] at this
      cases this
  | implOk c =>
    obtain ⟨hg, rfl⟩ := step_guard h
    simp only [Bool.and_eq_true, decide_eq_true_eq] at hg
    obtain ⟨hp, rfl⟩ := hg
    have hact : s.connActive = true := by
      cases ha : s.connActive with
      | true => rfl
      | false =>
        have := (hi.idle ha).2.2
        rw [hp] at this
        cases this
    have hnew : s.nextConn ∉ s.everConnected := fun hm => Nat.lt_irrefl _ (hi.fresh _ hm)
    -- in field order; `pendingNotFailed` and `pend` are vacuous: the attempt is not pending afterwards
    refine ⟨?_, ?_, nofun, ?_, ?_, ?_, ?_, nofun, ?_, ?_, ?_⟩
    · intro hc
      rw [hact] at hc
      cases hc
    · intro c hc
      cases hc
      exact ⟨rfl, hi.pendingNotFailed hp, rfl⟩
    · intro _ hc
      have := (hi.connectedNoRetry hact hc).2
      rw [hp] at this
      cases this
    · intro c hc
      exact Nat.lt_succ_of_lt (hi.fresh c hc)
    · intro c hc
      cases hc
      exact Nat.lt_succ_self _
    · intro _ c hc hm
      cases hc
      exact absurd hm hnew
    · intro c hm hne
      by_cases hcc : s.conn = some c
      · exact hi.pend hp c hcc hm
      · exact hi.replacedShut c hm hcc
    · intro p hp
      exact Nat.lt_succ_of_lt (hi.sends p hp)
    · intro x hx
      exact Nat.lt_succ_of_lt (hi.faulted x hx)
  | status u =>
    obtain ⟨hg, rfl⟩ := step_guard h
    simp only [Bool.and_eq_true, decide_eq_true_eq, ne_eq] at hg
    obtain ⟨⟨hne, hncl⟩, hg⟩ := hg
    cases u with
    | closed => exact { hi with connectedNoRetry := nofun, disc := nofun }
    | disconnected =>
      simp only [Bool.and_eq_true, decide_eq_true_eq] at hg
      refine { hi with connectedNoRetry := nofun, disc := fun _ c hc _ => ?_ }
      have hg2 := hg.2
      rw [show s.conn = some c from hc] at hg2
      simp only [Bool.and_eq_true, List.contains_iff_mem] at hg2
      exact hg2.2
    | connected =>
      simp only [Bool.and_eq_true] at hg
      obtain ⟨hact, hsome⟩ := hg
      obtain ⟨c, ho⟩ := Option.isSome_iff_exists.1 hsome
      obtain ⟨hconn, hlf, hnp⟩ := hi.okConnCurrent c ho
      refine { hi with connectedNoRetry := fun _ _ => ⟨hlf, hnp⟩, fresh := ?_, disc := nofun, pend := ?_, replacedShut := ?_ }
      · intro x hx
        simp only [ho] at hx
        rcases List.mem_cons.1 hx with rfl | hx
        · exact hi.freshConn _ hconn
        · exact hi.fresh x hx
      · intro hc
        rw [show s.implPending = false from hnp] at hc
        cases hc
      · intro x hx hne'
        simp only [ho] at hx ⊢
        rcases List.mem_cons.1 hx with rfl | hx
        · exact absurd hconn hne'
        · exact hi.replacedShut x hx hne'
  | cfgFail c =>
    obtain ⟨hg, rfl⟩ := step_guard h
    simp only [Bool.and_eq_true, decide_eq_true_eq, ne_eq] at hg
    obtain ⟨⟨hok, hact⟩, hnc⟩ := hg
    obtain ⟨hconn, -, hnp⟩ := hi.okConnCurrent c hok
    refine { hi with idle := ?_, okConnCurrent := nofun, pendingNotFailed := ?_, connectedNoRetry := fun _ hc => absurd hc hnc,
                     faulted := hi.fault (hi.freshConn c hconn) }
    · intro hc
      rw [hact] at hc
      cases hc
    · intro hc
      rw [show s.implPending = false from hnp] at hc
      cases hc
  | writerClose c =>
    obtain ⟨-, rfl⟩ := step_guard h
    exact { hi with disc := fun a c b d => List.mem_cons_of_mem _ (hi.disc a c b d),
                    pend := fun a c b d => List.mem_cons_of_mem _ (hi.pend a c b d),
                    replacedShut := fun c a b => List.mem_cons_of_mem _ (hi.replacedShut c a b) }
  | connCancel =>
    obtain ⟨-, rfl⟩ := step_guard h
    exact { hi with idle := fun _ => ⟨rfl, rfl, rfl⟩, okConnCurrent := nofun, pendingNotFailed := nofun, connectedNoRetry := nofun, pend := nofun }
  | write c sid idx =>
    obtain ⟨hg, rfl⟩ := step_guard h
    simp only [Bool.and_eq_true] at hg
    have hl := hi.linkOk hg.1.1.2
    refine { hi with sends := fun p hp => ?_ }
    dsimp only at hp ⊢
    split at hp
    · exact hi.sends p hp
    · rcases List.mem_cons.1 hp with rfl | hp
      · exact hl
      · exact hi.sends p hp
  | writeFail c sid =>
    obtain ⟨hg, rfl⟩ := step_guard h
    simp only [Bool.and_eq_true] at hg
    exact { hi with faulted := hi.fault (hi.linkOk hg.2) }
  | drainFail c =>
    dsimp only [step, stepCore] at h
    split at h
    · obtain ⟨hg, rfl⟩ := step_guard h
      exact { hi with faulted := hi.fault (hi.linkOk hg) }
    · cases h
  | envEof c | envReadErr c =>
    cases h
    split
    · next hc => exact { hi with faulted := hi.fault (hi.freshConn c hc) }
    · exact { hi with }
  | abandon c =>
    obtain ⟨hg, rfl⟩ := step_guard h
    simp only [Bool.and_eq_true, decide_eq_true_eq] at hg
    exact { hi with faulted := hi.fault (hi.freshConn c hg.1.1.1.2) }
  | connGiveUp c =>
    obtain ⟨hg, rfl⟩ := step_guard h
    simp only [Bool.and_eq_true, decide_eq_true_eq] at hg
    exact { hi with faulted := hi.fault (hi.freshConn c hg.2) }
  | _ => exact hi.frame (step_frame h) rfl rfl rfl rfl rfl

theorem run_links {evs : List Ev} {s : CS} (h : runTrace init evs = some s) : Links s :=
  runTrace_preserves step_links h links_init

end N2k.Client

/-
The encoder side.  For ANY step list a run of `runSteps` succeeds iff every step does, and accumulates the OR of the steps'
parts (`runSteps_eq`).  In a compiled encoder the part of a field is the field's encoded integer reduced to the field's
width, at the field's position (`encStep_some`), and reading a field's range out of the OR gives the field's own part
(`read_part`).  Decode-then-encode (C02: `roundtrip'`, through the per-kind `Inverse` lemmas) and "every field's bits are
its own value" (C09: `payload_bits`) are two readings of that.  The number codec is in `Number02.lean`, `decode_int` in
`Dec01.lean`.
-/
import N2k.Lemmas.Number02
namespace N2k
open N2k.Spec

/-- the OR of the values of the parts, each shifted to its offset (`C02_accumulate_read` reads a part back when the
positions are pairwise disjoint) -/
def accumulate : List (Nat × Nat × Nat) → Nat     -- (value, len, off), value < 2^len
  | [] => 0
  | (v, _, o) :: rest => accumulate rest ||| (v <<< o)

def disjointRanges : List (Nat × Nat × Nat) → Prop
  | [] => True
  | (_, l, o) :: rest => (∀ x ∈ rest, o + l ≤ x.2.2 ∨ x.2.2 + x.2.1 ≤ o) ∧ disjointRanges rest

def leNat : List Nat → Nat
  | [] => 0
  | b :: bs => b + 256 * leNat bs

def isIntLit (l : Option Lit) : Bool := match l with | some x => !x.isFloat | none => false

/-- per-field conditions under which the per-kind theorems of Props/C02.lean apply -/
def encFieldOk (f : FieldDef) : Bool :=
  match f.bitLength, f.bitOffset, f.resolution with
  | some l, some _, some r =>
    let t := f.ftype
    if t = "NUMBER" ∨ t = "PGN" then
      1 ≤ l && l ≤ 48 && (!f.signed || 4 ≤ l) && f.rangeMin.isSome && f.rangeMax.isSome &&
      (if r.isFloat then f.offset.isNone && decide (pow2 (-1022) ≤ r.exact)
       else decide (0 < r.m) && decide (r.e = 0) && isIntLit f.rangeMin && isIntLit f.rangeMax &&
            (f.offset.isNone || isIntLit f.offset))
    else if t = "TIME" ∨ t = "DURATION" then
      4 ≤ l && l ≤ 48 && f.rangeMin.isSome && f.rangeMax.isSome && f.offset.isNone &&
      (if r.isFloat then decide (pow2 (-1022) ≤ r.exact)
       else decide (0 < r.m) && decide (r.e = 0) && isIntLit f.rangeMin && isIntLit f.rangeMax)
    else if t = "DATE" then
      2 ≤ l && l ≤ 48 && !f.signed && !r.isFloat && decide (r.m = 1) && decide (r.e = 0) &&
      isIntLit f.rangeMin && isIntLit f.rangeMax && f.offset.isNone
    else if t = "LOOKUP" then f.enum.isSome
    else t = "RESERVED"
  | _, _, _ => false

def rangesDisjoint : List FieldDef → Bool
  | [] => true
  | f :: rest =>
    rest.all (fun g =>
      match f.bitOffset, f.bitLength, g.bitOffset, g.bitLength with
      | some o, some l, some o', some l' => decide (o + l ≤ o' ∨ o' + l' ≤ o)
      | _, _, _, _ => false) && rangesDisjoint rest

def idsUnique : List FieldDef → Bool
  | [] => true
  | f :: rest => rest.all (fun g => fieldId g ≠ fieldId f) && idsUnique rest

end N2k
namespace N2k.Enc02
open N2k N2k.Spec N2k.Number

/-! ### reading a window of `accumulate parts`: a part at a position disjoint from the others reads back unchanged -/

theorem acc_read_disj (parts : List (Nat × Nat × Nat)) (hv : ∀ x ∈ parts, x.1 < 2 ^ x.2.1) (o l : Nat)
    (hd : ∀ x ∈ parts, o + l ≤ x.2.2 ∨ x.2.2 + x.2.1 ≤ o) :
    Straight.decode_int (accumulate parts) o l = 0 := by
  induction parts with
  | nil => exact Dec01.decode_int_zero o l
  | cons y rest ih =>
    obtain ⟨v, l', o'⟩ := y
    rw [accumulate, Dec01.decode_int_or, ih (fun x hx => hv x (List.mem_cons_of_mem _ hx))
      (fun x hx => hd x (List.mem_cons_of_mem _ hx)),
      Dec01.decode_int_shift_disj v o' l' o l (hv _ (List.mem_cons_self ..)) (hd _ (List.mem_cons_self ..)).symm]
    rfl

theorem acc_read (parts : List (Nat × Nat × Nat)) (hd : disjointRanges parts)
    (hv : ∀ x ∈ parts, x.1 < 2 ^ x.2.1) (x : Nat × Nat × Nat) (hx : x ∈ parts) :
    Straight.decode_int (accumulate parts) x.2.2 x.2.1 = x.1 := by
  induction parts with
  | nil => cases hx
  | cons y rest ih =>
    obtain ⟨v, l, o⟩ := y
    obtain ⟨hd1, hd2⟩ := hd
    have hv' : ∀ x ∈ rest, x.1 < 2 ^ x.2.1 := fun x hx => hv x (List.mem_cons_of_mem _ hx)
    rw [accumulate, Dec01.decode_int_or]
    rcases List.mem_cons.mp hx with rfl | hx'
    · rw [acc_read_disj rest hv' _ _ hd1, Dec01.decode_int_shift_self _ _ _ (hv _ (List.mem_cons_self ..))]
      simp
    · rw [ih hd2 hv' hx', Dec01.decode_int_shift_disj v o l _ _ (hv _ (List.mem_cons_self ..)) (hd1 x hx')]
      simp

theorem decode_int_acc (o w : Nat) : ∀ parts : List (Nat × Nat × Nat),
    Straight.decode_int (accumulate parts) o w =
      (parts.map fun x => Straight.decode_int (x.1 <<< x.2.2) o w).foldr (· ||| ·) 0 := by
  intro parts
  induction parts with
  | nil => exact Dec01.decode_int_zero o w
  | cons x rest ih =>
    obtain ⟨v, l, o'⟩ := x
    rw [accumulate, Dec01.decode_int_or, ih, Nat.or_comm]
    rfl

/-- what a step ORs in, as (value before the shift, width, offset); `none` when the step raises -/
def stepPart (env : Env) (fs : List Field) : EncStep → Option (Nat × Nat × Nat)
  | .field id _ k mask off =>
    match getField fs id with
    | none => none
    | some f =>
      match encValue env f k with
      | .error _ => none
      | .ok v => some ((v % ((2 ^ bitLength mask : Nat) : Int)).toNat &&& mask, bitLength mask, off)
  | _ => none

theorem runSteps_cons {env : Env} {fs : List Field} {a r : Nat} {s : EncStep} {rest : List EncStep} :
    runSteps env fs a (s :: rest) = .ok r ↔
      ∃ x, stepPart env fs s = some x ∧ runSteps env fs (a ||| (x.1 <<< x.2.2)) rest = .ok r := by
  cases s with
  | noLayout pg nm => exact ⟨(fun h => nomatch h), fun ⟨_, h, _⟩ => nomatch h⟩
  | unrecognised w => exact ⟨(fun h => nomatch h), fun ⟨_, h, _⟩ => nomatch h⟩
  | field id nm k mask off =>
    rw [runSteps]
    simp only [stepPart]
    cases getField fs id with
    | none => exact ⟨(fun h => nomatch h), fun ⟨_, h, _⟩ => nomatch h⟩
    | some f =>
      simp only [bind, Except.bind]
      cases encValue env f k with
      | error e => exact ⟨(fun h => nomatch h), fun ⟨_, h, _⟩ => nomatch h⟩
      | ok v =>
        refine ⟨fun h => ⟨_, rfl, h⟩, fun ⟨_, h, hr⟩ => ?_⟩
        cases h
        exact hr

theorem runSteps_eq (env : Env) (fs : List Field) : ∀ (steps : List EncStep) (a r : Nat),
    runSteps env fs a steps = .ok r ↔
      (∀ s ∈ steps, (stepPart env fs s).isSome) ∧ r = a ||| accumulate (steps.filterMap (stepPart env fs)) := by
  intro steps
  induction steps with
  | nil =>
    intro a r
    rw [runSteps, List.filterMap_nil, accumulate, Nat.or_zero]
    exact ⟨fun h => ⟨fun _ hs => absurd hs List.not_mem_nil, (Except.ok.inj h).symm⟩, fun h => congrArg Except.ok h.2.symm⟩
  | cons s rest ih =>
    intro a r
    rw [runSteps_cons, List.forall_mem_cons]
    constructor
    · rintro ⟨⟨v, l, o⟩, hx, hr⟩
      obtain ⟨hall, rfl⟩ := (ih _ _).mp hr
      rw [hx, List.filterMap_cons_some hx, accumulate, Nat.or_assoc, Nat.or_comm (v <<< o)]
      exact ⟨⟨rfl, hall⟩, rfl⟩
    · rintro ⟨⟨h1, hall⟩, rfl⟩
      obtain ⟨⟨v, l, o⟩, hx⟩ := Option.isSome_iff_exists.mp h1
      rw [List.filterMap_cons_some hx, accumulate, ← Nat.or_comm (v <<< o), ← Nat.or_assoc]
      exact ⟨_, hx, (ih _ _).mpr ⟨hall, rfl⟩⟩

theorem stepPart_field {env : Env} {fs : List Field} {id nm : String} {k : EncKind} {mask off : Nat}
    {x : Nat × Nat × Nat} (h : stepPart env fs (.field id nm k mask off) = some x) : x.1 ≤ mask ∧ x.2.2 = off := by
  simp only [stepPart] at h
  split at h
  · cases h
  · split at h
    · cases h
    · cases h
      exact ⟨Nat.and_le_right, rfl⟩

/-! ### per-field: what the decoder reports is re-encoded to the field's bits -/

theorem runOp_number {env : Env} {data off : Nat} {done : List Field} {len : Nat} {signed : Bool}
    {res mn mx ofs : Lit} {post : Post} {v raw : PyVal} {off' : Nat}
    (h : runOp env data off done (.number len signed res mn mx ofs post) = .ok (v, raw, off')) :
    ∃ r', decodeNumber data off len signed res mn mx ofs = .ok r' ∧
      raw = (match r' with | some x => numVal x | none => .none) ∧
      (post = .id → v = raw) ∧ (post = .time → v = decodeTime r') ∧ (post = .date → decodeDate r' = .ok v) := by
  simp only [runOp, bind, Except.bind, pure, Except.pure] at h
  cases hd : decodeNumber data off len signed res mn mx ofs with
  | error e =>
    rw [hd] at h
    cases h
  | ok r' =>
    rw [hd] at h
    refine ⟨r', rfl, ?_⟩
    cases post with
    | id =>
      simp only [Except.ok.injEq, Prod.mk.injEq] at h
      exact ⟨h.2.1.symm, fun _ => h.1.symm.trans h.2.1, fun h' => (by cases h'), fun h' => (by cases h')⟩
    | time =>
      simp only [Except.ok.injEq, Prod.mk.injEq] at h
      exact ⟨h.2.1.symm, fun h' => (by cases h'), fun _ => h.1.symm, fun h' => (by cases h')⟩
    | date =>
      simp only at h
      cases hdd : decodeDate r' with
      | error e =>
        rw [hdd] at h
        cases h
      | ok d =>
        rw [hdd] at h
        simp only [Except.ok.injEq, Prod.mk.injEq] at h
        exact ⟨h.2.1.symm, fun h' => (by cases h'), fun h' => (by cases h'), fun _ => (by rw [h.1])⟩

theorem encValue_number_none (env : Env) (fm : FieldMeta) (raw : PyVal) (bits : Nat) (s : Bool) (r o : Lit) :
    encValue env ⟨fm, .none, raw⟩ (.number bits s r o) = encodeNumber .none bits s r o := rfl

theorem encValue_number_num (env : Env) (fm : FieldMeta) (raw : PyVal) (x : Num) (bits : Nat) (s : Bool) (r o : Lit) :
    encValue env ⟨fm, numVal x, raw⟩ (.number bits s r o) = encodeNumber (numVal x) bits s r o := by
  cases x <;> rfl

theorem encValue_time_none (env : Env) (fm : FieldMeta) (bits : Nat) (s : Bool) (r : Lit) :
    encValue env ⟨fm, .none, .none⟩ (.time r bits s) = .ok (naTime bits s) := rfl

theorem encValue_time_num (env : Env) (fm : FieldMeta) (val : PyVal) (x : Num) (bits : Nat) (s : Bool) (r : Lit)
    (hres : r.val ≠ 0) :
    encValue env ⟨fm, val, numVal x⟩ (.time r bits s) = .ok (rhe (pyDiv x (litNum r))) := by
  cases x <;> simp only [encValue, numVal, if_neg hres] <;> rfl

theorem isIntLit_some {l : Option Lit} (h : isIntLit l = true) : ∃ x, l = some x ∧ x.isFloat = false := by
  cases l with
  | none => cases h
  | some x => exact ⟨x, rfl, by simpa [isIntLit] using h⟩

theorem two_le_len_of_none {data off len : Nat} {signed : Bool} {res mn mx ofs : Lit}
    (h : decodeNumber data off len signed res mn mx ofs = .ok none) (hl : 1 ≤ len) : 2 ≤ len := by
  have h' := (Dec01.decodeNumber_na ..).mp h
  by_contra hc
  have : len = 1 := by omega
  subst this
  simp [naCode] at h'

/-- encoder kind `k` undoes decoder op `d` on an `l`-bit field: whatever `d` reports, the step of kind
`k` turns back into the field's bits -/
def Inverse (env : Env) (d : DecOp) (k : EncKind) (l : Nat) : Prop :=
  ∀ (data o : Nat) (done : List Field) (fm : FieldMeta) (v raw : PyVal) (off' : Nat),
    runOp env data o done d = .ok (v, raw, off') →
    ∃ z, encValue env ⟨fm, v, raw⟩ k = .ok z ∧ contrib z l = Straight.decode_int data o l

theorem inverse_number (env : Env) {l : Nat} {s : Bool} {r mn mx ofs : Lit} (hsc : Scales r ofs)
    (hl1 : 1 ≤ l) (hl48 : l ≤ 48) (hs : effSigned s ofs = true → 4 ≤ l) :
    Inverse env (.number l s r mn mx ofs .id) (.number l s r ofs) l := by
  intro data o done fm v raw off' hrun
  obtain ⟨r', hdec, hraw, hv, -, -⟩ := runOp_number hrun
  cases hv rfl
  cases r' with
  | none =>
    subst hraw
    have h2 : 2 ≤ l := two_le_len_of_none hdec hl1
    rw [encValue_number_none, encodeNumber_none _ _ _ _ (by omega)]
    exact ⟨_, rfl, na_rt data o l s r mn mx _ h2 hdec⟩
  | some x =>
    subst hraw
    rw [encValue_number_num]
    exact number_rt hsc hl1 hl48 hs hdec

theorem inverse_time (env : Env) {l : Nat} {s : Bool} {r mn mx : Lit} {post : Post} (hsc : Scales r (Lit.ofInt 0))
    (hl4 : 4 ≤ l) (hl48 : l ≤ 48) (hpost : post ≠ .date) :
    Inverse env (.number l s r mn mx (Lit.ofInt 0) post) (.time r l s) l := by
  intro data o done fm v raw off' hrun
  obtain ⟨r', hdec, hraw, hvid, hvtime, -⟩ := runOp_number hrun
  cases r' with
  | none =>
    have hv : v = .none := by
      cases post with
      | id => rw [hvid rfl, hraw]
      | time =>
        rw [hvtime rfl]
        rfl
      | date => exact absurd rfl hpost
    subst hv
    subst hraw
    rw [encValue_time_none]
    refine ⟨_, rfl, ?_⟩
    rw [naTime_eq l s hl4]
    have hna := na_rt data o l s r mn mx _ (by omega) hdec
    rwa [Dec01.effSigned_zero] at hna
  | some x =>
    subst hraw
    rw [encValue_time_num _ _ _ _ _ _ _ hsc.1]
    exact ⟨_, rfl, ticks_rt hsc hl48 hdec⟩

theorem inverse_date (env : Env) {l : Nat} {r mn mx : Lit} (hl2 : 2 ≤ l) (hrf : r.isFloat = false) (hrm : r.m = 1) :
    Inverse env (.number l false r mn mx (Lit.ofInt 0) .date) (.date l) l := by
  intro data o done fm v raw off' hrun
  obtain ⟨r', hdec, hraw, -, -, hvd⟩ := runOp_number hrun
  have hvd' := hvd rfl
  cases r' with
  | none =>
    subst hraw
    cases (Except.ok.inj hvd' : PyVal.none = v)
    refine ⟨((2 ^ l : Nat) : Int) - 1, rfl, ?_⟩
    rw [← naVal_unsigned]
    have hna := na_rt data o l false r mn mx _ hl2 hdec
    rwa [Dec01.effSigned_zero] at hna
  | some x =>
    subst hraw
    obtain ⟨-, rfl⟩ := Dec01.decodeNumber_some hdec
    simp only [mulLit, hrf, Bool.false_eq_true, if_false, addLit, Lit.ofInt, numVal, hrm]
    refine ⟨_, rfl, ?_⟩
    rw [Int.mul_one, Int.add_zero]
    exact contrib_fieldInt ..

theorem inverse_lookup (env : Env) (l : Nat) (e : String) : Inverse env (.lookup l e) (.lookup e) l := by
  intro data o done fm v raw off' hrun
  simp only [runOp, pure, Except.pure, throw, throwThe, MonadExceptOf.throw] at hrun
  cases hm : assocGet e env.master with
  | none =>
    rw [hm] at hrun
    cases hrun
  | some tbl =>
    rw [hm] at hrun
    simp only [Except.ok.injEq, Prod.mk.injEq] at hrun
    rw [← hrun.2.1]
    exact ⟨_, rfl, contrib_nat _ _ (Dec01.decode_int_lt ..)⟩

theorem inverse_reserved (env : Env) (l : Nat) : Inverse env (.rawInt l) .reserved l := by
  intro data o done fm v raw off' hrun
  simp only [runOp, pure, Except.pure, Except.ok.injEq, Prod.mk.injEq] at hrun
  rw [← hrun.1]
  exact ⟨_, rfl, contrib_nat _ _ (Dec01.decode_int_lt ..)⟩

theorem encFieldOk_inverse (env : Env) (f : FieldDef) (l : Nat) (hok : encFieldOk f = true) (hl : f.bitLength = some l) :
    Inverse env (decOp f) (encKind f l) l := by
  unfold encFieldOk at hok
  rw [hl] at hok
  cases ho : f.bitOffset with
  | none =>
    rw [ho] at hok
    cases hok
  | some o =>
  cases hr : f.resolution with
  | none =>
    rw [ho, hr] at hok
    cases hok
  | some r =>
    rw [ho, hr] at hok
    simp only at hok
    by_cases ht1 : f.ftype = "NUMBER" ∨ f.ftype = "PGN"
    · rw [if_pos ht1] at hok
      simp only [Bool.and_eq_true, decide_eq_true_eq, Bool.or_eq_true, Bool.not_eq_true'] at hok
      obtain ⟨⟨⟨⟨⟨hl1, hl48⟩, hsg⟩, hmn⟩, hmx⟩, hres⟩ := hok
      obtain ⟨mn, hmn⟩ := Option.isSome_iff_exists.mp hmn
      obtain ⟨mx, hmx⟩ := Option.isSome_iff_exists.mp hmx
      have hs : f.signed = true → 4 ≤ l := by
        intro h
        rcases hsg with h' | h'
        · rw [h] at h'
          cases h'
        · exact h'
      have hops : decOp f = .number l f.signed r mn mx (f.offset.getD (Lit.ofInt 0)) .id ∧
          encKind f l = .number l f.signed r (f.offset.getD (Lit.ofInt 0)) := by
        rcases ht1 with h | h <;> simp [decOp, encKind, h, numberOp, hl, hr, hmn, hmx]
      rw [hops.1, hops.2]
      refine inverse_number env ?_ hl1 hl48 (fun h => hs (Dec01.signed_of_effSigned _ _ h))
      by_cases hf : r.isFloat = true
      · rw [if_pos hf] at hres
        simp only [Bool.and_eq_true, decide_eq_true_eq, Option.isNone_iff_eq_none] at hres
        rw [hres.1]
        exact scales_float r hf hres.2
      · rw [if_neg hf] at hres
        simp only [Bool.and_eq_true, decide_eq_true_eq, Bool.or_eq_true, Option.isNone_iff_eq_none] at hres
        refine scales_int r _ (by simpa using hf) hres.1.1.1.1 ?_
        rcases hres.2 with h | h
        · rw [h]
          rfl
        · obtain ⟨x, hx, hxf⟩ := isIntLit_some h
          rw [hx]
          exact hxf
    · rw [if_neg ht1] at hok
      by_cases ht2 : f.ftype = "TIME" ∨ f.ftype = "DURATION"
      · rw [if_pos ht2] at hok
        simp only [Bool.and_eq_true, decide_eq_true_eq, Option.isNone_iff_eq_none] at hok
        obtain ⟨⟨⟨⟨⟨hl4, hl48⟩, hmn⟩, hmx⟩, hofs⟩, hres⟩ := hok
        obtain ⟨mn, hmn⟩ := Option.isSome_iff_exists.mp hmn
        obtain ⟨mx, hmx⟩ := Option.isSome_iff_exists.mp hmx
        have hop : ∃ post, post ≠ Post.date ∧ decOp f = .number l f.signed r mn mx (Lit.ofInt 0) post := by
          rcases ht2 with h | h
          · exact ⟨.time, by simp, by simp [decOp, h, numberOp, hl, hr, hmn, hmx]⟩
          · exact ⟨.id, by simp, by simp [decOp, h, numberOp, hl, hr, hmn, hmx, hofs]⟩
        obtain ⟨post, hpost, hop⟩ := hop
        have hk : encKind f l = .time r l f.signed := by
          rcases ht2 with h | h <;> simp [encKind, h, hr]
        rw [hop, hk]
        refine inverse_time env ?_ hl4 hl48 hpost
        by_cases hf : r.isFloat = true
        · rw [if_pos hf] at hres
          exact scales_float r hf (by simpa using hres)
        · rw [if_neg hf] at hres
          simp only [Bool.and_eq_true, decide_eq_true_eq] at hres
          exact scales_int r _ (by simpa using hf) hres.1.1.1 rfl
      · rw [if_neg ht2] at hok
        by_cases ht3 : f.ftype = "DATE"
        · rw [if_pos ht3] at hok
          simp only [Bool.and_eq_true, decide_eq_true_eq, Option.isNone_iff_eq_none, Bool.not_eq_true'] at hok
          obtain ⟨⟨⟨⟨⟨⟨⟨⟨hl2, hl48⟩, hsg⟩, hrf⟩, hrm⟩, hre⟩, hmn⟩, hmx⟩, hofs⟩ := hok
          obtain ⟨mn, hmn, -⟩ := isIntLit_some hmn
          obtain ⟨mx, hmx, -⟩ := isIntLit_some hmx
          have hop : decOp f = .number l f.signed r mn mx (Lit.ofInt 0) .date := by
            simp [decOp, ht3, numberOp, hl, hr, hmn, hmx]
          have hk : encKind f l = .date l := by simp [encKind, ht3]
          rw [hop, hk, hsg]
          exact inverse_date env hl2 hrf hrm
        · rw [if_neg ht3] at hok
          by_cases ht4 : f.ftype = "LOOKUP"
          · rw [if_pos ht4] at hok
            obtain ⟨e, he⟩ := Option.isSome_iff_exists.mp hok
            have hop : decOp f = .lookup l e := by simp [decOp, ht4, he, withLen, hl]
            have hk : encKind f l = .lookup e := by simp [encKind, ht4, he]
            rw [hop, hk]
            exact inverse_lookup env l e
          · rw [if_neg ht4] at hok
            have ht5 : f.ftype = "RESERVED" := by simpa using hok
            have hop : decOp f = .rawInt l := by simp [decOp, ht5, withLen, hl]
            have hk : encKind f l = .reserved := by simp [encKind, ht5]
            rw [hop, hk]
            exact inverse_reserved env l

theorem encFieldOk_not_indirect (f : FieldDef) (hok : encFieldOk f = true) : f.ftype ≠ "INDIRECT_LOOKUP" := by
  intro h
  unfold encFieldOk at hok
  split at hok
  · simp [h] at hok
  · cases hok

/-! ### `runEnc`: the accumulated integer as little-endian bytes, and `leNat` reads it back -/

theorem toLE_length : ∀ (k n : Nat), (toLE n k).length = k := by
  intro k
  induction k with
  | zero =>
    intro n
    rfl
  | succ k ih =>
    intro n
    simp [toLE, ih]

theorem leNat_toLE : ∀ (k n : Nat), leNat (toLE n k) = n % 256 ^ k := by
  intro k
  induction k with
  | zero =>
    intro n
    simp [toLE, leNat, Nat.mod_one]
  | succ k ih =>
    intro n
    rw [toLE, leNat, ih, Nat.pow_succ, Nat.mul_comm (256 ^ k) 256, Nat.mod_mul]

theorem lt_two_pow_bitLength (n : Nat) : n < 2 ^ bitLength n := by
  unfold bitLength
  split
  · subst_vars
    simp
  · exact Nat.lt_log2_self

theorem pow256 (k : Nat) : 256 ^ k = 2 ^ (8 * k) :=
  (Nat.pow_mul 2 8 k).symm

/-- `to_bytes(LEN)` raises when the integer does not fit; without a length the minimal width is taken -/
theorem runEnc_eq_ok {env : Env} {fn : EncFn} {flds : List Field} {bytes : List Nat} :
    runEnc env fn flds = .ok bytes ↔ ∃ n, runSteps env flds 0 fn.steps = .ok n ∧
      (∀ L, fn.len = some L → n < 256 ^ L) ∧ bytes = toLE n (fn.len.getD ((bitLength n + 7) / 8)) := by
  unfold runEnc
  cases hr : runSteps env flds 0 fn.steps with
  | error e => exact ⟨nofun, fun ⟨_, h, _⟩ => nomatch h⟩
  | ok n =>
    show (match fn.len with
      | some l => if n < 256 ^ l then Except.ok (toLE n l) else Except.error EncErr.overflow
      | none => Except.ok (toLE n ((bitLength n + 7) / 8))) = Except.ok bytes ↔ _
    cases fn.len with
    | none =>
      refine ⟨fun h => ⟨n, rfl, nofun, (Except.ok.inj h).symm⟩, fun ⟨_, h, _, e⟩ => ?_⟩
      cases h
      rw [e]
      rfl
    | some L =>
      show (if n < 256 ^ L then Except.ok (toLE n L) else Except.error EncErr.overflow) = Except.ok bytes ↔ _
      by_cases hlt : n < 256 ^ L
      · rw [if_pos hlt]
        refine ⟨fun h => ⟨n, rfl, fun _ e => Option.some.inj e ▸ hlt, (Except.ok.inj h).symm⟩,
          fun ⟨_, h, _, e⟩ => ?_⟩
        cases h
        rw [e]
        rfl
      · rw [if_neg hlt]
        refine ⟨nofun, fun ⟨_, h, hfit, _⟩ => ?_⟩
        cases h
        exact absurd (hfit L rfl) hlt

theorem leNat_payload (n : Nat) (len : Option Nat) (h : ∀ L, len = some L → n < 256 ^ L) :
    leNat (toLE n (len.getD ((bitLength n + 7) / 8))) = n := by
  rw [leNat_toLE, Nat.mod_eq_of_lt]
  cases len with
  | some L => exact h L rfl
  | none =>
    rw [pow256, Option.getD_none]
    exact lt_of_lt_of_le (lt_two_pow_bitLength n) (Nat.pow_le_pow_right (by norm_num) (by omega))

theorem bitLength_mask (l : Nat) : bitLength (2 ^ l - 1) = l := by
  unfold bitLength
  cases l with
  | zero => rfl
  | succ k =>
    have h1 := Nat.two_pow_pos k
    have h2 : 2 ^ (k + 1) = 2 * 2 ^ k := Nat.pow_succ'
    have hne : 2 ^ (k + 1) - 1 ≠ 0 := by omega
    rw [if_neg hne, (Nat.log2_eq_iff (k := k) hne).2 ⟨by omega, by omega⟩]

theorem masked_eq (z : Int) (l : Nat) : ((z % ((2 ^ l : Nat) : Int)).toNat &&& (2 ^ l - 1)) = contrib z l := by
  rw [Nat.and_two_pow_sub_one_eq_mod]
  exact Nat.mod_eq_of_lt (contrib_lt z l)

theorem stepPart_encStep (env : Env) (flds : List Field) (p : PgnDef) {f : FieldDef} {l o : Nat} {fld : Field}
    {v : Int} (hl : f.bitLength = some l) (ho : f.bitOffset = some o)
    (hg : getField flds (fieldId f) = some fld) (hv : encValue env fld (encKind f l) = .ok v) :
    stepPart env flds (encStep p f) = some (contrib v l, l, o) := by
  simp only [encStep, hl, ho, stepPart, hg, hv, bitLength_mask, masked_eq]

theorem encStep_some {env : Env} {flds : List Field} {p : PgnDef} {f : FieldDef} {x : Nat × Nat × Nat}
    (h : stepPart env flds (encStep p f) = some x) :
    ∃ l o fld v, f.bitLength = some l ∧ f.bitOffset = some o ∧ getField flds (fieldId f) = some fld ∧
      encValue env fld (encKind f l) = .ok v ∧ x = (contrib v l, l, o) := by
  cases hl : f.bitLength with
  | none => simp [encStep, hl, stepPart] at h
  | some l =>
    cases ho : f.bitOffset with
    | none => simp [encStep, hl, ho, stepPart] at h
    | some o =>
      cases hg : getField flds (fieldId f) with
      | none => simp [encStep, hl, ho, stepPart, hg] at h
      | some fld =>
        cases hv : encValue env fld (encKind f l) with
        | error e => simp [encStep, hl, ho, stepPart, hg, hv] at h
        | ok v =>
          rw [stepPart_encStep env flds p hl ho hg hv] at h
          exact ⟨l, o, fld, v, rfl, rfl, rfl, hv, (Option.some.inj h).symm⟩

theorem runSteps_compiled (env : Env) (flds : List Field) (p : PgnDef) (fs : List FieldDef) (a r : Nat) :
    runSteps env flds a (fs.map (encStep p)) = .ok r ↔
      (∀ f ∈ fs, (stepPart env flds (encStep p f)).isSome) ∧
        r = a ||| accumulate (fs.filterMap (stepPart env flds ∘ encStep p)) := by
  rw [runSteps_eq, List.forall_mem_map, List.filterMap_map]

theorem disj_parts (F : FieldDef → Option (Nat × Nat × Nat))
    (hF : ∀ f x, F f = some x → f.bitLength = some x.2.1 ∧ f.bitOffset = some x.2.2) :
    ∀ fs : List FieldDef, rangesDisjoint fs = true → disjointRanges (fs.filterMap F) := by
  intro fs
  induction fs with
  | nil =>
    intro _
    trivial
  | cons f rest ih =>
    intro h
    rw [rangesDisjoint, Bool.and_eq_true, List.all_eq_true] at h
    cases hx : F f with
    | none =>
      rw [List.filterMap_cons_none hx]
      exact ih h.2
    | some x =>
      rw [List.filterMap_cons_some hx]
      obtain ⟨v, l, o⟩ := x
      refine ⟨fun y hy => ?_, ih h.2⟩
      obtain ⟨g, hg, hgy⟩ := List.mem_filterMap.mp hy
      have := h.1 g hg
      rw [(hF f _ hx).1, (hF f _ hx).2, (hF g y hgy).1, (hF g y hgy).2] at this
      exact of_decide_eq_true this

theorem read_part (env : Env) (flds : List Field) (p : PgnDef) {fs : List FieldDef} (hrd : rangesDisjoint fs = true)
    {f : FieldDef} (hf : f ∈ fs) {x : Nat × Nat × Nat} (hx : stepPart env flds (encStep p f) = some x) :
    Straight.decode_int (accumulate (fs.filterMap (stepPart env flds ∘ encStep p))) x.2.2 x.2.1 = x.1 := by
  refine acc_read _ (disj_parts _ (fun g y hy => ?_) fs hrd) (fun y hy => ?_) x (List.mem_filterMap.mpr ⟨f, hf, hx⟩)
  · obtain ⟨l, o, fld, v, hl, ho, -, -, rfl⟩ := encStep_some hy
    exact ⟨hl, ho⟩
  · obtain ⟨g, -, hgy⟩ := List.mem_filterMap.mp hy
    obtain ⟨l, o, fld, v, -, -, -, -, rfl⟩ := encStep_some hgy
    exact contrib_lt v l

theorem payload_bits (env : Env) (g : List PgnDef) (p : PgnDef) (hrd : rangesDisjoint p.fields = true)
    (flds : List Field) (bytes : List Nat) (henc : runEnc env (compileEnc g p) flds = .ok bytes) :
    ∀ f ∈ p.fields, ∀ o l, f.bitOffset = some o → f.bitLength = some l →
      ∃ fld v, getField flds (fieldId f) = some fld ∧ encValue env fld (encKind f l) = .ok v ∧
        Straight.decode_int (leNat bytes) o l = contrib v l := by
  obtain ⟨n, hn, hfit, rfl⟩ := runEnc_eq_ok.mp henc
  obtain ⟨hall, rfl⟩ := (runSteps_compiled env flds p p.fields 0 n).mp hn
  intro f hf o l ho hl
  obtain ⟨x, hx⟩ := Option.isSome_iff_exists.mp (hall f hf)
  obtain ⟨l', o', fld, v, hl', ho', hg, hv, rfl⟩ := encStep_some hx
  cases hl.symm.trans hl'
  cases ho.symm.trans ho'
  refine ⟨fld, v, hg, hv, ?_⟩
  rw [leNat_payload _ _ hfit, Nat.zero_or]
  exact read_part env flds p hrd hf hx

/-! ### decode, then encode: on the decoder's output every step succeeds with the field's bits of `data` as its part -/

theorem nodup_ids : ∀ fs : List FieldDef, idsUnique fs = true → (fs.map fieldId).Nodup := by
  intro fs
  induction fs with
  | nil =>
    intro _
    exact List.nodup_nil
  | cons f rest ih =>
    intro h
    rw [idsUnique, Bool.and_eq_true, List.all_eq_true] at h
    rw [List.map_cons, List.nodup_cons]
    refine ⟨?_, ih h.2⟩
    intro hm
    obtain ⟨g, hg, e⟩ := List.mem_map.mp hm
    have := h.1 g hg
    simp only [ne_eq, decide_not, Bool.not_eq_eq_eq_not, Bool.not_true, decide_eq_false_iff_not] at this
    exact this e

theorem getField_of_nodup : ∀ (flds : List Field) (i : Nat) (x : Field),
    (flds.map (·.fmeta.id)).Nodup → flds[i]? = some x → getField flds x.fmeta.id = some x := by
  intro flds
  induction flds with
  | nil =>
    intro i x _ h
    simp at h
  | cons a l ih =>
    intro i x hn h
    rw [List.map_cons, List.nodup_cons] at hn
    unfold getField
    rw [List.find?_cons]
    cases i with
    | zero =>
      simp only [List.getElem?_cons_zero, Option.some.injEq] at h
      subst h
      simp
    | succ i =>
      simp only [List.getElem?_cons_succ] at h
      have hx : x ∈ l := List.mem_of_getElem? h
      have hne : a.fmeta.id ≠ x.fmeta.id := by
        intro e
        exact hn.1 (e ▸ List.mem_map.mpr ⟨x, hx, rfl⟩)
      simp only [hne, decide_false]
      exact ih i x hn.2 h

theorem acc_lt (N : Nat) : ∀ parts : List (Nat × Nat × Nat),
    (∀ x ∈ parts, x.1 < 2 ^ x.2.1 ∧ x.2.2 + x.2.1 ≤ N) → accumulate parts < 2 ^ N := by
  intro parts
  induction parts with
  | nil =>
    intro _
    exact Nat.two_pow_pos N
  | cons y rest ih =>
    obtain ⟨v, l, o⟩ := y
    intro h
    rw [accumulate]
    apply Nat.or_lt_two_pow (ih (fun x hx => h x (List.mem_cons_of_mem _ hx)))
    obtain ⟨h1, h2⟩ := h _ (List.mem_cons_self ..)
    simp only at h1 h2
    rw [Nat.shiftLeft_eq]
    calc v * 2 ^ o < 2 ^ l * 2 ^ o := Nat.mul_lt_mul_of_pos_right h1 (Nat.two_pow_pos o)
      _ = 2 ^ (l + o) := (Nat.pow_add 2 l o).symm
      _ ≤ 2 ^ N := Nat.pow_le_pow_right (by norm_num) (by omega)

theorem encFieldOk_layout (f : FieldDef) (h : encFieldOk f = true) : ∃ l o, f.bitLength = some l ∧ f.bitOffset = some o := by
  unfold encFieldOk at h
  split at h
  · rename_i l o r e1 e2 e3
    exact ⟨l, o, e1, e2⟩
  · cases h

theorem stepPart_of_decoded (env : Env) (g : List PgnDef) (p : PgnDef) (data : Nat) (m : Msg)
    (hok : p.fields.all encFieldOk = true) (hiu : idsUnique p.fields = true)
    (hord : (p.fields.mapIdx (fun i f => f.order == i + 1)).all id = true)
    (hdec : runDec env (compileDec g p) data = .ok m) :
    ∀ f ∈ p.fields, ∃ l o, f.bitLength = some l ∧ f.bitOffset = some o ∧
      stepPart env m.fields (encStep p f) = some (Straight.decode_int data o l, l, o) := by
  intro f hf
  rw [List.all_eq_true] at hok
  have hfok := hok f hf
  obtain ⟨l, o, hl, ho⟩ := encFieldOk_layout f hfok
  obtain ⟨i, hi⟩ := List.mem_iff_getElem?.mp hf
  have hord' := Dec01.orders_of_all p.fields hord
  obtain ⟨fld, v, off', done, hfld, -, hrun, hval⟩ := Dec01.compiled_field hdec hord' hi ho
  have hv := hval (encFieldOk_not_indirect f hfok)
  have hids : m.fields.map (·.fmeta.id) = p.fields.map fieldId := by
    have := congrArg (List.map (·.id)) (Dec01.compiled_meta hdec)
    simpa [List.map_map, Function.comp_def, fieldMeta] using this
  have hid : fld.fmeta.id = fieldId f := by
    have := congrArg (fun l => l[i]?) hids
    simp only [List.getElem?_map, hfld, hi, Option.map_some, Option.some.injEq] at this
    exact this
  have hget : getField m.fields (fieldId f) = some fld := by
    rw [← hid]
    exact getField_of_nodup m.fields i fld (hids ▸ nodup_ids _ hiu) hfld
  obtain ⟨fm, val', raw⟩ := fld
  simp only at hv hrun
  subst hv
  obtain ⟨z, hz, hc⟩ := encFieldOk_inverse env f l hfok hl data o done fm val' raw off' hrun
  exact ⟨l, o, hl, ho, hc ▸ stepPart_encStep env m.fields p hl ho hget hz⟩

theorem roundtrip' (env : Env) (g : List PgnDef) (p : PgnDef)
    (hok : p.fields.all encFieldOk = true) (hrd : rangesDisjoint p.fields = true) (hiu : idsUnique p.fields = true)
    (hord : (p.fields.mapIdx (fun i f => f.order == i + 1)).all id = true)
    (hlen : ∀ L, p.length = some L → ∀ f ∈ p.fields, ∀ o l, f.bitOffset = some o → f.bitLength = some l →
      o + l ≤ 8 * L)
    (data : Nat) (m : Msg) (hdec : runDec env (compileDec g p) data = .ok m) :
    ∃ bytes, runEnc env (compileEnc g p) m.fields = .ok bytes ∧
      (∀ L, p.length = some L → bytes.length = L) ∧
      (∀ f ∈ p.fields, ∀ o l, f.bitOffset = some o → f.bitLength = some l →
        Straight.decode_int (leNat bytes) o l = Straight.decode_int data o l) := by
  have hgood := stepPart_of_decoded env g p data m hok hiu hord hdec
  have hall : ∀ f ∈ p.fields, (stepPart env m.fields (encStep p f)).isSome := by
    intro f hf
    obtain ⟨l, o, -, -, h⟩ := hgood f hf
    rw [h]
    rfl
  have hsteps := (runSteps_compiled env m.fields p p.fields 0 _).mpr ⟨hall, rfl⟩
  -- `to_bytes(L)` has room: every part lies below bit `8 * L`
  have hfit : ∀ L, p.length = some L →
      0 ||| accumulate (p.fields.filterMap (stepPart env m.fields ∘ encStep p)) < 256 ^ L := by
    intro L hL
    rw [Nat.zero_or, pow256]
    apply acc_lt
    intro x hx
    obtain ⟨f, hf, hfx⟩ := List.mem_filterMap.mp hx
    obtain ⟨l, o, hl, ho, h⟩ := hgood f hf
    cases h.symm.trans hfx
    have := hlen L hL f hf o l ho hl
    exact ⟨Dec01.decode_int_lt .., by omega⟩
  refine ⟨_, runEnc_eq_ok.mpr ⟨_, hsteps, hfit, rfl⟩, fun L hL => ?_, fun f hf o l ho hl => ?_⟩
  · show (toLE _ (p.length.getD _)).length = L
    rw [toLE_length, hL]
    rfl
  · show Straight.decode_int (leNat (toLE _ (p.length.getD _))) o l = _
    obtain ⟨l', o', hl', ho', h⟩ := hgood f hf
    cases hl.symm.trans hl'
    cases ho.symm.trans ho'
    rw [leNat_payload _ _ hfit, Nat.zero_or]
    exact read_part env m.fields p hrd hf h

/-! ### `roundtrip'` over second names of the five predicates (`fieldOk = encFieldOk`, `leNat' = leNat`, …: the
equations follow the definitions) -/

def isIntLit' (l : Option Lit) : Bool := match l with | some x => !x.isFloat | none => false

def fieldOk (f : FieldDef) : Bool :=
  match f.bitLength, f.bitOffset, f.resolution with
  | some l, some _, some r =>
    let t := f.ftype
    if t = "NUMBER" ∨ t = "PGN" then
      1 ≤ l && l ≤ 48 && (!f.signed || 4 ≤ l) && f.rangeMin.isSome && f.rangeMax.isSome &&
      (if r.isFloat then f.offset.isNone && decide (pow2 (-1022) ≤ r.exact)
       else decide (0 < r.m) && decide (r.e = 0) && isIntLit' f.rangeMin && isIntLit' f.rangeMax &&
            (f.offset.isNone || isIntLit' f.offset))
    else if t = "TIME" ∨ t = "DURATION" then
      4 ≤ l && l ≤ 48 && f.rangeMin.isSome && f.rangeMax.isSome && f.offset.isNone &&
      (if r.isFloat then decide (pow2 (-1022) ≤ r.exact)
       else decide (0 < r.m) && decide (r.e = 0) && isIntLit' f.rangeMin && isIntLit' f.rangeMax)
    else if t = "DATE" then
      2 ≤ l && l ≤ 48 && !f.signed && !r.isFloat && decide (r.m = 1) && decide (r.e = 0) &&
      isIntLit' f.rangeMin && isIntLit' f.rangeMax && f.offset.isNone
    else if t = "LOOKUP" then f.enum.isSome
    else t = "RESERVED"
  | _, _, _ => false

def leNat' : List Nat → Nat
  | [] => 0
  | b :: bs => b + 256 * leNat' bs

def rangesDisj : List FieldDef → Bool
  | [] => true
  | f :: rest =>
    rest.all (fun g =>
      match f.bitOffset, f.bitLength, g.bitOffset, g.bitLength with
      | some o, some l, some o', some l' => decide (o + l ≤ o' ∨ o' + l' ≤ o)
      | _, _, _, _ => false) && rangesDisj rest

def idsUniq : List FieldDef → Bool
  | [] => true
  | f :: rest => rest.all (fun g => fieldId g ≠ fieldId f) && idsUniq rest

theorem fieldOk_eq : fieldOk = encFieldOk := rfl

theorem leNat'_eq : leNat' = leNat := by
  funext l
  induction l with
  | nil => rfl
  | cons b bs ih => rw [leNat', leNat, ih]

theorem rangesDisj_eq : rangesDisj = rangesDisjoint := by
  funext l
  induction l with
  | nil => rfl
  | cons f rest ih => rw [rangesDisj, rangesDisjoint, ih]

theorem idsUniq_eq : idsUniq = idsUnique := by
  funext l
  induction l with
  | nil => rfl
  | cons f rest ih => rw [idsUniq, idsUnique, ih]

theorem roundtrip (env : Env) (g : List PgnDef) (p : PgnDef)
    (hok : p.fields.all fieldOk = true) (hrd : rangesDisj p.fields = true) (hiu : idsUniq p.fields = true)
    (hord : (p.fields.mapIdx (fun i f => f.order == i + 1)).all id = true)
    (hlen : (match p.length with
      | some L => p.fields.all (fun f => match f.bitOffset, f.bitLength with
          | some o, some l => decide (o + l ≤ 8 * L) | _, _ => false)
      | none => true) = true)
    (data : Nat) (m : Msg) (hdec : runDec env (compileDec g p) data = .ok m) :
    ∃ bytes, runEnc env (compileEnc g p) m.fields = .ok bytes ∧
      (∀ L, p.length = some L → bytes.length = L) ∧
      (∀ f ∈ p.fields, ∀ o l, f.bitOffset = some o → f.bitLength = some l →
        Straight.decode_int (leNat' bytes) o l = Straight.decode_int data o l) := by
  rw [fieldOk_eq] at hok
  rw [rangesDisj_eq] at hrd
  rw [idsUniq_eq] at hiu
  rw [leNat'_eq]
  refine roundtrip' env g p hok hrd hiu hord (fun L hL f hf o l ho hl => ?_) data m hdec
  rw [hL] at hlen
  have := List.all_eq_true.mp hlen f hf
  rw [ho, hl] at this
  exact of_decide_eq_true this

end N2k.Enc02

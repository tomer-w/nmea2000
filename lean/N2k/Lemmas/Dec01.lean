/-
The decoder side of the codecs (core Lean only):
* `decode_int data o l` as the `l`-bit field of `data` at bit `o`: arithmetic form, bound, bits, OR, shifted values;
* `fieldInt`, `effSigned`, and `decodeNumber` in normal form (`decodeNumber_eq`: the not-available test, else the range
  test `checkRange` of the scaled value), from which every statement about `decodeNumber` is derived;
* the loop invariant of the statement interpreter (`runStmts_inv`, over `Ext`);
* the statements `decStmts` compiles a definition to, and with the invariant what a compiled decoder reports for a
  field (`compiled_field`).
-/
import N2k.Model.Spec
import N2k.Model.Interp
namespace N2k

/-- the integer the decoder sees in a field (sign-extended when signed) -/
def fieldInt (data off len : Nat) (signed : Bool) : Int :=
  if signed then signExtend (Straight.decode_int data off len) len else ((Straight.decode_int data off len : Nat) : Int)

end N2k
namespace N2k.Dec01
open N2k N2k.Spec

theorem decode_int_bits (data o l : Nat) : Straight.decode_int data o l = data / 2 ^ o % 2 ^ l := by
  simp only [Straight.decode_int, Nat.shiftRight_eq_div_pow, Nat.shiftLeft_eq, Nat.one_mul, Nat.and_two_pow_sub_one_eq_mod]

theorem decode_int_lt (data off len : Nat) : Straight.decode_int data off len < 2 ^ len := by
  rw [decode_int_bits]
  exact Nat.mod_lt _ (Nat.two_pow_pos _)

theorem testBit_decode_int (a o l i : Nat) :
    (Straight.decode_int a o l).testBit i = (decide (i < l) && a.testBit (o + i)) := by
  rw [decode_int_bits, Nat.testBit_mod_two_pow, ← Nat.shiftRight_eq_div_pow, Nat.testBit_shiftRight]

theorem decode_int_or (a b o l : Nat) :
    Straight.decode_int (a ||| b) o l = Straight.decode_int a o l ||| Straight.decode_int b o l := by
  apply Nat.eq_of_testBit_eq
  intro i
  simp only [testBit_decode_int, Nat.testBit_or, Bool.and_or_distrib_left]

theorem decode_int_zero (o l : Nat) : Straight.decode_int 0 o l = 0 := by
  rw [decode_int_bits]
  simp

theorem decode_int_shift_self (v o l : Nat) (h : v < 2 ^ l) : Straight.decode_int (v <<< o) o l = v := by
  rw [decode_int_bits, ← Nat.shiftRight_eq_div_pow, Nat.shiftLeft_shiftRight, Nat.mod_eq_of_lt h]

theorem decode_int_shift_disj (v o l o' l' : Nat) (h : v < 2 ^ l) (hd : o + l ≤ o' ∨ o' + l' ≤ o) :
    Straight.decode_int (v <<< o) o' l' = 0 := by
  apply Nat.eq_of_testBit_eq
  intro i
  rw [testBit_decode_int, Nat.testBit_shiftLeft, Nat.zero_testBit]
  by_cases hi : i < l'
  · by_cases hge : o' + i ≥ o
    · rcases hd with hd | hd
      · have : v.testBit (o' + i - o) = false :=
          Nat.testBit_lt_two_pow (Nat.lt_of_lt_of_le h (Nat.pow_le_pow_right (by decide) (by omega)))
        simp [this]
      · omega
    · simp [hge]
  · simp [hi]

/-- the signedness `decode_number` / `encode_number` actually use: a field with an Offset is stored
excess-K, so its raw count is unsigned whatever the database's Signed flag says -/
def _root_.N2k.effSigned (signed : Bool) (ofs : Lit) : Bool := if ofs.val = 0 then signed else false

theorem pow10_zero : pow10 0 = 1 := by decide +kernel
theorem rat_sub_zero (a : Rat) : a - 0 = a := by rw [Rat.sub_eq_add_neg, Rat.neg_zero, Rat.add_zero]

theorem ofInt_val (o : Int) : (Lit.ofInt o).val = (o : Rat) := by
  simp only [Lit.ofInt, Lit.val, Lit.exact, pow10_zero, Bool.false_eq_true, if_false, Rat.mul_one]

theorem ofInt_zero_val : (Lit.ofInt 0).val = 0 := ofInt_val 0
theorem ofInt_isFloat (o : Int) : (Lit.ofInt o).isFloat = false := rfl

theorem effSigned_zero (signed : Bool) : effSigned signed (Lit.ofInt 0) = signed := by
  simp only [effSigned, ofInt_val]
  rfl

theorem effSigned_of_val_eq_zero (signed : Bool) (ofs : Lit) (h : ofs.val = 0) : effSigned signed ofs = signed := by
  simp only [effSigned, if_pos h]

theorem effSigned_of_val_ne_zero (signed : Bool) (ofs : Lit) (h : ofs.val ≠ 0) : effSigned signed ofs = false := by
  simp only [effSigned, if_neg h]

theorem effSigned_unsigned (ofs : Lit) : effSigned false ofs = false := by
  unfold effSigned
  split <;> rfl

theorem signed_of_effSigned (signed : Bool) (ofs : Lit) (h : effSigned signed ofs = true) : signed = true := by
  unfold effSigned at h
  split at h
  · exact h
  · cases h

/-- the range test of `decode_number` on the scaled value `v`: `min - tol ≤ v ≤ max + tol` -/
def checkRange (res mn mx : Lit) (v : Num) : Except DecErr (Option Num) :=
  let tol : Rat :=
    if res.isFloat then
      maxR (rne (absR res.val / 2)) (rne (rne (absR v.toRat) * relTol))
    else 0
  let lo : Rat := if res.isFloat ∨ mn.isFloat then rne (rne mn.val - tol) else mn.val - tol
  let hi : Rat := if res.isFloat ∨ mx.isFloat then rne (rne mx.val + tol) else mx.val + tol
  if v.toRat < lo then .error .below
  else if v.toRat > hi then .error .above
  else .ok (some v)

theorem decodeNumber_eq (data off len : Nat) (signed : Bool) (res mn mx ofs : Lit) :
    decodeNumber data off len signed res mn mx ofs =
      if naCode len (effSigned signed ofs) = some (fieldInt data off len (effSigned signed ofs)) then .ok none
      else checkRange res mn mx (addLit (mulLit (fieldInt data off len (effSigned signed ofs)) res) ofs) := rfl

theorem ite_error_error_ok {ε α} (a b : Prop) [Decidable a] [Decidable b] (e1 e2 : ε) (v : α) :
    (if a then Except.error e1 else if b then Except.error e2 else Except.ok v) = .ok v ∨
    (if a then Except.error e1 else if b then Except.error e2 else Except.ok v) = .error e1 ∨
    (if a then Except.error e1 else if b then Except.error e2 else Except.ok v) = .error e2 := by
  by_cases a <;> by_cases b <;> simp [*]

theorem checkRange_cases (res mn mx : Lit) (v : Num) :
    checkRange res mn mx v = .ok (some v) ∨ checkRange res mn mx v = .error .below ∨
      checkRange res mn mx v = .error .above := ite_error_error_ok ..

theorem checkRange_int (r mn mx n : Int) (h1 : mn ≤ n) (h2 : n ≤ mx) :
    checkRange (Lit.ofInt r) (Lit.ofInt mn) (Lit.ofInt mx) (.int n) = .ok (some (.int n)) := by
  simp only [checkRange, ofInt_val, ofInt_isFloat, Bool.false_eq_true, if_false, or_self, Num.toRat, rat_sub_zero,
    Rat.add_zero, gt_iff_lt, Rat.intCast_lt_intCast]
  rw [if_neg (by omega), if_neg (by omega)]

theorem decodeNumber_na (data off len : Nat) (signed : Bool) (res mn mx ofs : Lit) :
    decodeNumber data off len signed res mn mx ofs = .ok none ↔
      naCode len (effSigned signed ofs) = some (fieldInt data off len (effSigned signed ofs)) := by
  rw [decodeNumber_eq]
  split
  · exact iff_of_true rfl ‹_›
  · refine iff_of_false ?_ ‹_›
    rcases checkRange_cases res mn mx (addLit (mulLit (fieldInt data off len (effSigned signed ofs)) res) ofs)
      with e | e | e <;> rw [e] <;> nofun

theorem decodeNumber_some {data off len : Nat} {signed : Bool} {res mn mx ofs : Lit} {v : Num}
    (h : decodeNumber data off len signed res mn mx ofs = .ok (some v)) :
    naCode len (effSigned signed ofs) ≠ some (fieldInt data off len (effSigned signed ofs)) ∧
      v = addLit (mulLit (fieldInt data off len (effSigned signed ofs)) res) ofs := by
  rw [decodeNumber_eq] at h
  split at h
  · cases h
  · refine ⟨‹_›, ?_⟩
    rcases checkRange_cases res mn mx (addLit (mulLit (fieldInt data off len (effSigned signed ofs)) res) ofs)
      with e | e | e <;> rw [e] at h <;> cases h
    rfl

theorem runStmts_cons_ok {env : Env} {data off : Nat} {done : List Field} {s : DecStmt} {rest : List DecStmt}
    {out : List Field}
    (h : runStmts env data off done (s :: rest) = .ok out) :
    ∃ v raw off2 done2 off3,
      runOp env data (match s.off with | some o => o | none => off) done s.op = .ok (v, raw, off2) ∧
      (done2 = done ++ [⟨s.fmeta, v, raw⟩] ∨
        ∃ p val, s.patch = some p ∧ done2 = setValue (done ++ [⟨s.fmeta, v, raw⟩]) p.target val) ∧
      runStmts env data off3 done2 rest = .ok out := by
  -- the `do` block of `runStmts` arm by arm: `runOp` raises or returns; no patch, or a patch whose three look-ups
  -- succeed (`setValue`); every other arm of the patch raises
  rw [runStmts] at h
  simp only [bind, Except.bind, pure, Except.pure, throw, throwThe, MonadExceptOf.throw] at h
  split at h
  · cases h
  · rename_i r hop
    obtain ⟨v, raw, off2⟩ := r
    refine ⟨v, raw, off2, ?_⟩
    split at h
    · exact ⟨_, _, hop, Or.inl rfl, h⟩
    · rename_i p hp
      split at h
      · split at h
        · cases h
        · rename_i d2 hd2
          split at hd2
          · cases hd2
            exact ⟨_, _, hop, Or.inr ⟨p, _, hp, rfl⟩, h⟩
          · cases hd2
          · cases hd2
      · cases h

theorem setValue_length (l : List Field) (k : Nat) (v : PyVal) : (setValue l k v).length = l.length := by
  simp [setValue]

theorem setValue_getElem? (l : List Field) (k : Nat) (v : PyVal) (i : Nat) :
    (setValue l k v)[i]? = l[i]?.map (fun f => if i = k then { f with value := v } else f) := by
  simp [setValue, List.getElem?_mapIdx]

theorem setValue_map_fmeta (l : List Field) (k : Nat) (v : PyVal) :
    (setValue l k v).map (·.fmeta) = l.map (·.fmeta) := by
  apply List.ext_getElem?
  intro i
  simp only [List.getElem?_map, setValue_getElem?]
  cases l[i]? with
  | none => rfl
  | some f =>
    simp only [Option.map_some]
    split <;> rfl

/-- `b` extends `a`; metadata and raw values are kept, values are kept outside `P` -/
def Ext (P : Nat → Prop) (a b : List Field) : Prop :=
  ∀ i x, a[i]? = some x →
    ∃ y, b[i]? = some y ∧ y.fmeta = x.fmeta ∧ y.raw = x.raw ∧ (¬ P i → y.value = x.value)

theorem Ext.refl (P) (a : List Field) : Ext P a a := fun _ x hx => ⟨x, hx, rfl, rfl, fun _ => rfl⟩

theorem Ext.trans {P} {a b c : List Field} (h1 : Ext P a b) (h2 : Ext P b c) : Ext P a c := by
  intro i x hx
  obtain ⟨y, hy, m1, r1, v1⟩ := h1 i x hx
  obtain ⟨z, hz, m2, r2, v2⟩ := h2 i y hy
  exact ⟨z, hz, m2.trans m1, r2.trans r1, fun hp => (v2 hp).trans (v1 hp)⟩

theorem Ext.append (P) (a : List Field) (x : Field) : Ext P a (a ++ [x]) := by
  intro i y hy
  refine ⟨y, ?_, rfl, rfl, fun _ => rfl⟩
  have hi : i < a.length := (List.getElem?_eq_some_iff.mp hy).1
  rw [List.getElem?_append_left hi]
  exact hy

theorem Ext.set {P : Nat → Prop} (a : List Field) (k : Nat) (v : PyVal) (hk : P k) :
    Ext P a (setValue a k v) := by
  intro i x hx
  rw [setValue_getElem?, hx]
  refine ⟨_, rfl, ?_, ?_, ?_⟩
  · simp only
    split <;> rfl
  · simp only
    split <;> rfl
  · intro hp
    have : i ≠ k := fun e => hp (e ▸ hk)
    simp only [if_neg this]

theorem runStmts_inv (env : Env) (data : Nat) (P : Nat → Prop) :
    ∀ (stmts : List DecStmt) (off : Nat) (done out : List Field),
    (∀ s ∈ stmts, ∀ p, s.patch = some p → P p.target) →
    runStmts env data off done stmts = .ok out →
    out.map (·.fmeta) = done.map (·.fmeta) ++ stmts.map (·.fmeta) ∧ Ext P done out ∧
    ∀ j s, stmts[j]? = some s →
      ∃ done' off1 v raw off' y, done'.length = done.length + j ∧ (∀ o, s.off = some o → off1 = o) ∧
        runOp env data off1 done' s.op = .ok (v, raw, off') ∧ out[done.length + j]? = some y ∧
        y.fmeta = s.fmeta ∧ y.raw = raw ∧ (¬ P (done.length + j) → y.value = v) := by
  -- One statement appends `⟨fmeta, v, raw⟩` and may then overwrite the VALUE at a patch target, which lies in `P`
  -- (`runStmts_cons_ok`); so every field, once appended, reaches `out` by `Ext P`.  Statement `j + 1` of `s :: rest`
  -- is statement `j` of `rest`, run from a `done` that is one longer.
  intro stmts
  induction stmts with
  | nil =>
    intro off done out _ h
    simp only [runStmts, pure, Except.pure, Except.ok.injEq] at h
    subst h
    exact ⟨by simp, Ext.refl _ _, fun j s hs => by simp at hs⟩
  | cons s rest ih =>
    intro off done out hP h
    obtain ⟨v, raw, off2, done2, off3, hop, hd, hr⟩ := runStmts_cons_ok h
    have hP' : ∀ s ∈ rest, ∀ p, s.patch = some p → P p.target :=
      fun s' hs' => hP s' (List.mem_cons_of_mem _ hs')
    obtain ⟨hmeta, hext, hj⟩ := ih off3 done2 out hP' hr
    have hd2 : done2.map (·.fmeta) = done.map (·.fmeta) ++ [s.fmeta] ∧ Ext P (done ++ [⟨s.fmeta, v, raw⟩]) done2 := by
      rcases hd with rfl | ⟨p, val, hp, rfl⟩
      · exact ⟨by simp, Ext.refl _ _⟩
      · exact ⟨by simp [setValue_map_fmeta], Ext.set _ _ _ (hP s (List.mem_cons_self ..) p hp)⟩
    obtain ⟨hm2, he2⟩ := hd2
    have hl2 : done2.length = done.length + 1 := by
      have := congrArg List.length hm2
      simpa using this
    have hext' : Ext P (done ++ [⟨s.fmeta, v, raw⟩]) out := he2.trans hext
    refine ⟨by rw [hmeta, hm2]; simp, (Ext.append P done _).trans hext', ?_⟩
    intro j s' hs'
    cases j with
    | zero =>
      simp only [List.getElem?_cons_zero, Option.some.injEq] at hs'
      subst hs'
      obtain ⟨y, hy, m, r, vv⟩ := hext' done.length ⟨s.fmeta, v, raw⟩ (by simp)
      refine ⟨done, _, v, raw, off2, y, rfl, ?_, hop, hy, m, r, vv⟩
      intro o ho
      simp [ho]
    | succ j =>
      simp only [List.getElem?_cons_succ] at hs'
      obtain ⟨done', off1, v', raw', off', y, h1, h2, h3, h4, h5, h6, h7⟩ := hj j s' hs'
      have e : done2.length + j = done.length + (j + 1) := by omega
      rw [e] at h1 h4 h7
      exact ⟨done', off1, v', raw', off', y, h1, h2, h3, h4, h5, h6, h7⟩

theorem decStmts_map_fmeta : ∀ (fs : List FieldDef) (pend : Pending),
    (decStmts pend fs).map (·.fmeta) = fs.map fieldMeta := by
  intro fs
  induction fs with
  | nil =>
    intro pend
    rfl
  | cons f fs ih =>
    intro pend
    simp only [decStmts, List.map_cons, ih]

theorem decStmts_getElem? : ∀ (fs : List FieldDef) (pend : Pending) (j : Nat) (f : FieldDef),
    fs[j]? = some f →
    ∃ s, (decStmts pend fs)[j]? = some s ∧ s.off = f.bitOffset ∧ s.op = decOp f ∧ s.fmeta = fieldMeta f := by
  intro fs
  induction fs with
  | nil =>
    intro pend j f h
    simp at h
  | cons g fs ih =>
    intro pend j f h
    cases j with
    | zero =>
      simp only [List.getElem?_cons_zero, Option.some.injEq] at h
      subst h
      simp only [decStmts, List.getElem?_cons_zero]
      exact ⟨_, rfl, rfl, rfl, rfl⟩
    | succ j =>
      simp only [List.getElem?_cons_succ] at h
      simp only [decStmts, List.getElem?_cons_succ]
      exact ih _ j f h

theorem decStmts_patch (Q : Nat → Prop) : ∀ (fs : List FieldDef) (pend : Pending),
    (∀ o e k, pend = some (o, e, k) → Q k) →
    (∀ f ∈ fs, f.ftype = "INDIRECT_LOOKUP" → Q (f.order - 1)) →
    ∀ s ∈ decStmts pend fs, ∀ p, s.patch = some p → Q p.target := by
  intro fs
  induction fs with
  | nil =>
    intro pend _ _ s hs
    simp [decStmts] at hs
  | cons f fs ih =>
    intro pend hpend hfs s hs p hp
    simp only [decStmts, List.mem_cons] at hs
    have hpend' : ∀ o e k,
        (if f.ftype = "INDIRECT_LOOKUP" then
          match f.indirectOrder, f.indirectEnum with
          | some o, some e => some (o, e, f.order - 1)
          | _, _ => pend
        else pend) = some (o, e, k) → Q k := by
      intro o e k h
      split at h
      · rename_i hind
        split at h
        · simp only [Option.some.injEq, Prod.mk.injEq] at h
          rw [← h.2.2]
          exact hfs f (List.mem_cons_self ..) hind
        · exact hpend o e k h
      · exact hpend o e k h
    rcases hs with rfl | hs
    · simp only at hp
      split at hp
      · rename_i o e k hk
        split at hp
        · simp only [Option.some.injEq] at hp
          subst hp
          exact hpend' o e k hk
        · cases hp
      · cases hp
    · exact ih _ hpend' (fun g hg => hfs g (List.mem_cons_of_mem _ hg)) s hs p hp

theorem orders_of_all (fs : List FieldDef)
    (h : (fs.mapIdx (fun i f => f.order == i + 1)).all id = true) :
    ∀ j f, fs[j]? = some f → f.order = j + 1 := by
  intro j f hf
  rw [List.all_eq_true] at h
  have := h (f.order == j + 1) (by
    rw [List.mem_iff_getElem?]
    exact ⟨j, by simp [List.getElem?_mapIdx, hf]⟩)
  simpa using this

theorem runDec_ok {env : Env} {g : List PgnDef} {p : PgnDef} {data : Nat} {m : Msg}
    (h : runDec env (compileDec g p) data = .ok m) :
    ∃ fs, runStmts env data 0 [] (decStmts none p.fields) = .ok fs ∧
      m = { pgn := p.pgn, id := p.id, desc := p.desc, ttlMs := p.interval, fields := fs } := by
  simp only [runDec, compileDec, bind, Except.bind, pure, Except.pure] at h
  split at h
  · cases h
  · rename_i fs hfs
    simp only [Except.ok.injEq] at h
    exact ⟨fs, hfs, h.symm⟩

theorem compiled_meta {env : Env} {g : List PgnDef} {p : PgnDef} {data : Nat} {m : Msg}
    (h : runDec env (compileDec g p) data = .ok m) : m.fields.map (·.fmeta) = p.fields.map fieldMeta := by
  obtain ⟨fs, hrun, rfl⟩ := runDec_ok h
  simpa [decStmts_map_fmeta] using (runStmts_inv env data (fun _ => True) _ 0 [] fs (fun _ _ _ _ => trivial) hrun).1

theorem compiled_field {env : Env} {g : List PgnDef} {p : PgnDef} {data : Nat} {m : Msg}
    (h : runDec env (compileDec g p) data = .ok m)
    (hord : ∀ j f, p.fields[j]? = some f → f.order = j + 1)
    {i : Nat} {f : FieldDef} (hf : p.fields[i]? = some f) {o : Nat} (ho : f.bitOffset = some o) :
    ∃ fld v off' done, m.fields[i]? = some fld ∧ done.length = i ∧
      runOp env data o done (decOp f) = .ok (v, fld.raw, off') ∧
      (f.ftype ≠ "INDIRECT_LOOKUP" → fld.value = v) := by
  obtain ⟨fs, hrun, rfl⟩ := runDec_ok h
  -- `P`: the positions of the INDIRECT_LOOKUP fields, the only ones a patch of `decStmts` writes (orders are 1, 2, …);
  -- elsewhere the invariant hands over the value `runOp` returned
  let P : Nat → Prop := fun k => ∃ f', p.fields[k]? = some f' ∧ f'.ftype = "INDIRECT_LOOKUP"
  have hP : ∀ s ∈ decStmts none p.fields, ∀ q, s.patch = some q → P q.target := by
    apply decStmts_patch P
    · intro o e k hk
      cases hk
    · intro f' hf' hind
      obtain ⟨j, hj⟩ := List.mem_iff_getElem?.mp hf'
      have := hord j f' hj
      exact ⟨f', by rw [this]; simpa using hj, hind⟩
  obtain ⟨-, -, hj⟩ := runStmts_inv env data P _ 0 [] fs hP hrun
  obtain ⟨s, hs, hoff, hop, -⟩ := decStmts_getElem? p.fields none i f hf
  obtain ⟨done', off1, v, raw, off', y, h1, h2, h3, h4, -, h6, h7⟩ := hj i s hs
  simp only [List.length_nil, Nat.zero_add] at h1 h4 h7
  have : off1 = o := h2 o (hoff.trans ho)
  subst this
  subst h6
  rw [hop] at h3
  refine ⟨y, v, off', done', h4, h1, h3, ?_⟩
  intro hne
  apply h7
  rintro ⟨f', hf'', hind⟩
  rw [hf] at hf''
  cases hf''
  exact hne hind

end N2k.Dec01

/- helper lemmas for Props/C06Msg.lean and Props/C06Yd.lean.  The message level composes properties of the frame level,
hence the Props imports: the wire round trips and the identifier round trip (C06, which rests on C05) and frame by
frame = pre-assembled together with the kind of every database definition (C07Fast). -/
import N2k.Model.Encoder
import N2k.Props.C06
import N2k.Props.C07Fast
namespace N2k.Enc
open N2k N2k.Dec N2k.Gen N2k.Spec N2k.Straight

/-! ### the vocabulary of the message-level statements -/

/-- the encoder side of the shipped generated layer (regenerated from /repo on every run) -/
def shippedEnc : EncLayer := mkEncLayer ⟨masterDict, masterFlagsDict, masterIndirectDict, revDicts⟩ encFns fasts

/-- how a frame-level front-end hands a frame to the decoding core -/
def toInput (w : Bool) (f : Wire.Frame) : Input :=
  { pgn := f.pgn, prio := f.prio, src := f.src, dst := f.dst, data := f.data, combined := false, inWindow := w }

/-- all packets were accepted: the frames they carry -/
def okFrames (rs : List (Wire.Res Wire.Frame)) : Option (List Wire.Frame) :=
  rs.mapM (fun r => match r with | .ok f => some f | _ => none)

/-- canonical addressing: a PDU1 (addressed) PGN has low byte 0 and a one-byte destination; a PDU2 (broadcast) PGN goes to 255 -/
def CanonAddr (m : MsgIn) : Prop :=
  m.dst < 256 ∧ (if m.pgn / 256 % 256 < 240 then m.pgn % 256 = 0 else m.dst = 255)

/-- the message handed over pre-assembled -/
def wholeInput (w : Bool) (m : MsgIn) (B : Bytes) : Input :=
  { pgn := m.pgn, prio := m.prio, src := m.src, dst := m.dst, data := B, combined := true, inWindow := w }

/-! ### what an accepted call says -/

theorem encodeFrames_inv (L : EncLayer) (seq seq' : Nat) (m : MsgIn) (frs : List Bytes)
    (he : encodeFrames L seq m = .ok (seq', frs)) :
    m.prio ≤ 7 ∧ m.src ≤ 255 ∧ m.pgn ≤ 0x3FFFF ∧ ∃ B, callEncode L m = .ok B ∧
      ((L.isFast m.pgn = .fast ∧ B.length ≤ 223 ∧ seq' = (seq + 1) % 8 ∧ frs = Fast.frames seq B) ∨
       (L.isFast m.pgn ≠ .fast ∧ L.isFast m.pgn ≠ .raises ∧ seq' = seq ∧ frs = [B])) := by
  unfold encodeFrames at he
  split at he
  · cases he
  next hg =>
    simp only [not_or, Nat.not_lt] at hg
    refine ⟨hg.1, hg.2.1, hg.2.2.1, ?_⟩
    split at he
    · cases he
    · cases he
    next B hB =>
      refine ⟨B, hB, ?_⟩
      split at he
      · cases he
      next hk =>
        split at he
        · cases he
        · cases he
          exact Or.inl ⟨hk, Nat.le_of_not_lt ‹_›, rfl, rfl⟩
      all_goals
        cases he
        rename_i hk
        exact Or.inr ⟨by rw [hk]; decide, by rw [hk]; decide, rfl, rfl⟩

theorem encodeEbyte_inv (L : EncLayer) (seq seq' : Nat) (m : MsgIn) (pk : List Bytes)
    (he : encodeEbyte L seq m = .ok (seq', pk)) :
    ∃ frs, encodeFrames L seq m = .ok (seq', frs) ∧ (∀ f ∈ frs, f.length ≤ 8) ∧
      pk = frs.map (Wire.encodeEbyte (frameId m)) := by
  unfold encodeEbyte at he
  split at he
  next s frs hF =>
    split at he <;> cases he
    next ha => exact ⟨frs, hF, fun f hf => Nat.le_of_not_lt fun h => ha (List.any_eq_true.2 ⟨f, hf, by simpa using h⟩), rfl⟩
  all_goals cases he

/-- the USB and Yacht Devices encoders wrap each frame of `_encode` with `g`, nothing else -/
theorem wrap_inv {α : Type} (g : Bytes → α) (r : Res (Nat × List Bytes)) (seq' : Nat) (pk : List α)
    (he : (match r with
      | .ok (s, frs) => Res.ok (s, frs.map g)
      | .raised => .raised
      | .unmodelled => .unmodelled) = .ok (seq', pk)) :
    ∃ frs, r = .ok (seq', frs) ∧ pk = frs.map g := by
  split at he <;> cases he
  exact ⟨_, rfl, rfl⟩

theorem encodeUsb_inv (L : EncLayer) (seq seq' : Nat) (m : MsgIn) (pk : List Bytes)
    (he : encodeUsb L seq m = .ok (seq', pk)) :
    ∃ frs, encodeFrames L seq m = .ok (seq', frs) ∧ pk = frs.map (Wire.encodeUsb (frameId m)) :=
  wrap_inv _ _ seq' pk he

theorem encodeYd_inv (L : EncLayer) (seq seq' : Nat) (m : MsgIn) (lines : List (List Char))
    (he : encodeYd L seq m = .ok (seq', lines)) :
    ∃ frs, encodeFrames L seq m = .ok (seq', frs) ∧ lines = frs.map (Wire.encodeYd (frameId m)) :=
  wrap_inv _ _ seq' lines he

theorem encodeActisense_inv (L : EncLayer) (m : MsgIn) (line : List Char)
    (he : encodeActisense L m = .ok line) :
    (m.prio ≤ 7 ∧ m.src ≤ 255 ∧ m.pgn ≤ 0x3FFFF ∧ m.dst ≤ 255) ∧
    ∃ B, callEncode L m = .ok B ∧ line = Wire.encodeActisense m.prio m.dst m.src m.pgn B := by
  unfold encodeActisense at he
  split at he
  · cases he
  next hg =>
    simp only [not_or, Nat.not_lt] at hg
    refine ⟨hg, ?_⟩
    split at he
    next B hB => exact ⟨B, hB, (Res.ok.inj he).symm⟩
    all_goals cases he

/-! ### payload bytes are bytes -/

theorem toLE_lt (k : Nat) : ∀ n, ∀ b ∈ toLE n k, b < 256 := by
  induction k with
  | zero =>
    intro n b hb
    cases hb
  | succ k ih => exact fun n => List.forall_mem_cons.2 ⟨Nat.mod_lt _ (by decide), ih _⟩

theorem runEnc_bytes (env : Env) (fn : EncFn) (fs : List Field) (B : List Nat)
    (h : runEnc env fn fs = .ok B) : ∀ b ∈ B, b < 256 := by
  unfold runEnc at h
  cases hn : runSteps env fs 0 fn.steps with
  | error e =>
    rw [hn] at h
    cases h
  | ok n =>
    rw [hn] at h
    simp only [bind, Except.bind, pure, Except.pure] at h
    split at h
    · split at h <;> cases h
      exact toLE_lt _ _
    · cases h
      exact toLE_lt _ _

theorem callEncode_mk_bytes (env : Env) (encFns : List EncFn) (fasts : List FastEntry) (m : MsgIn) (B : Bytes)
    (h : callEncode (mkEncLayer env encFns fasts) m = .ok B) : ∀ b ∈ B, b < 256 := by
  unfold callEncode at h
  split at h <;> cases h
  rename_i hB
  obtain ⟨fn, _, hr⟩ := Option.map_eq_some_iff.1 hB
  exact runEnc_bytes env fn m.fields _ hr

theorem frames_bytes (seq : Nat) (P : Bytes) (hs : seq < 8) (hP : P.length ≤ 223) (hb : ∀ b ∈ P, b < 256) :
    ∀ f ∈ Fast.frames seq P, 1 ≤ f.length ∧ ∀ b ∈ f, b < 256 := by
  intro f hf
  obtain ⟨j, hj⟩ := List.getElem?_of_mem hf
  cases j with
  | zero =>
    cases Option.some.inj hj
    exact ⟨Nat.succ_pos _, List.forall_mem_cons.2 ⟨by omega, List.forall_mem_cons.2 ⟨by omega,
      fun b h => hb b (List.mem_of_mem_take h)⟩⟩⟩
  | succ j =>
    rw [Fast.frames_getElem?_succ] at hj
    split at hj
    · cases Option.some.inj hj
      exact ⟨Nat.succ_pos _, List.forall_mem_cons.2 ⟨by omega,
        fun b h => hb b (List.mem_of_mem_drop (List.mem_of_mem_take h))⟩⟩
    · cases hj

theorem encodeFrames_bytes (env : Env) (encFns : List EncFn) (fasts : List FastEntry) (seq seq' : Nat) (m : MsgIn)
    (frs : List Bytes) (hs : seq < 8)
    (h1 : (mkEncLayer env encFns fasts).isFast m.pgn ≠ .fast →
      ∀ B, callEncode (mkEncLayer env encFns fasts) m = .ok B → 1 ≤ B.length)
    (he : encodeFrames (mkEncLayer env encFns fasts) seq m = .ok (seq', frs)) :
    ∀ f ∈ frs, 1 ≤ f.length ∧ ∀ b ∈ f, b < 256 := by
  obtain ⟨_, _, _, B, hB, hcase⟩ := encodeFrames_inv _ seq seq' m frs he
  have hb := callEncode_mk_bytes env encFns fasts m B hB
  rcases hcase with ⟨_, hP, _, rfl⟩ | ⟨hnf, _, _, rfl⟩
  · exact frames_bytes seq B hs hP hb
  · exact List.forall_mem_singleton.2 ⟨h1 hnf B hB, hb⟩

/-! ### the identifier carries the message's own addressing -/

/-- the frame a frame-level front-end should extract: the message's addressing, the frame's bytes -/
def msgFrame (m : MsgIn) (f : Bytes) : Wire.Frame :=
  { pgn := m.pgn, prio := m.prio, src := m.src, dst := m.dst, data := f }

theorem frameOfId_msg (m : MsgIn) (hp : m.prio < 8) (hs : m.src < 256) (hd : m.dst < 256) (hg : m.pgn < 2 ^ 18)
    (hc : if m.pgn / 256 % 256 < 240 then m.pgn % 256 = 0 else m.dst = 255) (f : Bytes) :
    Wire.frameOfId (frameId m) f = msgFrame m f := by
  rw [frameId, Wire.frameOfId_build m.pgn m.src m.dst m.prio f hp hs hd hg (fun h => by simpa [h] using hc), Wire.sentFrame,
    msgFrame]
  split
  · rfl
  next h =>
    rw [if_neg h] at hc
    rw [hc]

theorem frameId_lt (m : MsgIn) (hp : m.prio < 8) (hs : m.src < 256) (hd : m.dst < 256) (hg : m.pgn < 2 ^ 18) :
    frameId m < 2 ^ 32 :=
  Nat.lt_trans (N2k.C05_build_lt m.pgn m.src m.dst m.prio hp hs hd hg) (by decide)

/-! ### the decoder on the encoder's packets, for any frame-level format -/

theorem okFrames_ok (fs : List Wire.Frame) : okFrames (fs.map Wire.Res.ok) = some fs := by
  induction fs with
  | nil => rfl
  | cons f fs ih =>
    rw [okFrames] at ih ⊢
    simp [List.mapM_cons, ih]

/-- **The message-level trip for an abstract frame-level format**: `enc` makes a packet of an identifier and a frame's
bytes, `dec` is the front end.  If `dec ∘ enc` recovers the identifier's fields and the bytes (of every frame of at most
8 bytes), then every packet of an accepted message is accepted, nothing is returned before the last packet, and the last
packet returns what the pre-assembled payload returns. -/
theorem message_trip {α : Type} (enc : Nat → Bytes → α) (dec : α → Wire.Res Wire.Frame)
    (cfg : Config) (st : State) (m : MsgIn) (seq seq' : Nat) (frs : List Bytes)
    (p : PgnDef) (hp : p ∈ dbPgns) (hpg : p.pgn = m.pgn) (hty : p.ptype = "Fast" ∨ p.ptype = "Single")
    (hc : CanonAddr m) (hs : seq < 8) (w : Bool)
    (h0 : ∀ x, Fast.lookup st.table (m.pgn, m.src, m.dst) = some x → x.seq ≠ seq)
    (h8 : p.ptype = "Single" → ∀ B, callEncode shippedEnc m = .ok B → frs = [B] → B.length ≤ 8)
    (he : encodeFrames shippedEnc seq m = .ok (seq', frs))
    (hrt : ∀ id, id < 2 ^ 32 → ∀ f ∈ frs, f.length ≤ 8 → dec (enc id f) = .ok (Wire.frameOfId id f)) :
    (∀ f ∈ frs, f.length ≤ 8) ∧
    ∃ B fs, callEncode shippedEnc m = .ok B ∧ okFrames ((frs.map (enc (frameId m))).map dec) = some fs ∧
      (let outs := (run shipped cfg st (fs.map (toInput w))).2
       outs.dropLast.all (· = Out.none) = true ∧
       outs.getLast? = some (step shipped cfg st (wholeInput w m B)).2) := by
  obtain ⟨h1, h2, h3, B, hB, hcase⟩ := encodeFrames_inv shippedEnc seq seq' m frs he
  have hk : shipped.isFast m.pgn = kindOfType p.ptype := by rw [← hpg]; exact C07_db_fast_kind p hp
  have key : (∀ f ∈ frs, f.length ≤ 8) ∧
      (let outs := (run shipped cfg st (frs.map fun f => toInput w (msgFrame m f))).2
       outs.dropLast.all (· = Out.none) = true ∧
       outs.getLast? = some (step shipped cfg st (wholeInput w m B)).2) := by
    rcases hty with ht | ht
    · have hf : shipped.isFast m.pgn = .fast := by rw [hk, ht]; rfl
      rcases hcase with ⟨_, hP, _, rfl⟩ | ⟨hne, _⟩
      · exact ⟨Fast.frames_mem_length seq B, fast_probe shipped cfg st (wholeInput w m B) seq B hf hs hP
          (Fast.startsNew_of_seq_ne _ seq _ h0)⟩
      · exact absurd hf hne
    · have hf : shipped.isFast m.pgn = .single := by rw [hk, ht]; rfl
      rcases hcase with ⟨hfast, _⟩ | ⟨_, _, _, rfl⟩
      · exact absurd (hfast.symm.trans hf) (by decide)
      · refine ⟨List.forall_mem_singleton.2 (h8 ht B hB rfl), ?_⟩
        have hirr := C07_single_combined_irrelevant cfg st p hp ht (toInput w (msgFrame m B)) hpg.symm
        simp only [List.map_cons, List.map_nil, run, List.dropLast_singleton, List.all_nil, List.getLast?_singleton,
          true_and]
        exact congrArg (fun x => some x.2) hirr.symm
  refine ⟨key.1, B, frs.map (msgFrame m), hB, ?_, ?_⟩
  · have : (frs.map (enc (frameId m))).map dec = (frs.map (msgFrame m)).map Wire.Res.ok := by
      rw [List.map_map, List.map_map]
      refine List.map_congr_left fun f hf => ?_
      have hpr : m.prio < 8 := Nat.lt_succ_of_le h1
      have hsr : m.src < 256 := Nat.lt_succ_of_le h2
      have hpn : m.pgn < 2 ^ 18 := Nat.lt_succ_of_le h3
      rw [Function.comp, hrt _ (frameId_lt m hpr hsr hc.1 hpn) f hf (key.1 f hf), frameOfId_msg m hpr hsr hc.1 hpn hc.2]
      rfl
    rw [this, okFrames_ok]
  · rw [List.map_map]
    exact key.2

end N2k.Enc

/- the serial client's receive loop as a framer, and what it does with noise (C20) -/
import N2k.Model.Serial
import N2k.Lemmas.Framer
namespace N2k.Serial

theorem findMarker_tail_none {a : Nat} {l : Bytes} (h : findMarker (a :: l) = none) : findMarker l = none := by
  match l with
  | [] => rfl
  | b :: r =>
    rw [findMarker] at h
    split at h
    · cases h
    · exact Option.map_eq_none_iff.1 h

theorem findMarker_drop_none {l : Bytes} (k : Nat) (h : findMarker l = none) :
    findMarker (l.drop k) = none := by
  induction k generalizing l with
  | zero => exact h
  | succ k ih =>
    cases l with
    | nil => rfl
    | cons a t => exact ih (findMarker_tail_none h)

/-- the buffer from its first marker on; without one, a trailing half marker or nothing.  The loop looks at its
buffer only through this: everything in front can never start a packet -/
def sync (b : Bytes) : Bytes :=
  match findMarker b with
  | none => if b.getLast? = some 0xaa then [0xaa] else []
  | some s => b.drop s

theorem sync_cons_cons (a b : Nat) (r : Bytes) :
    sync (a :: b :: r) = if a = 0xaa ∧ b = 0x55 then a :: b :: r else sync (b :: r) := by
  unfold sync
  rw [findMarker]
  by_cases h : a = 0xaa ∧ b = 0x55
  · rw [if_pos h, if_pos h]
    rfl
  · rw [if_neg h, if_neg h]
    cases findMarker (b :: r) <;> rfl

theorem sync_single_ne {a : Nat} (h : a ≠ 0xaa) : sync [a] = [] :=
  if_neg fun h' => h (Option.some.inj h')

theorem sync_length_le (b : Bytes) : (sync b).length ≤ b.length := by
  fun_induction findMarker b with
  | case1 => exact Nat.le_refl _
  | case2 a =>
    show (if _ then _ else _ : Bytes).length ≤ 1
    split <;> decide
  | case3 a b rest h =>
    rw [sync_cons_cons, if_pos h]
    exact Nat.le_refl _
  | case4 a b rest h ih =>
    rw [sync_cons_cons, if_neg h]
    exact Nat.le_succ_of_le ih

theorem sync_append (x y : Bytes) : sync (sync x ++ y) = sync (x ++ y) := by
  fun_induction findMarker x with
  | case1 => rfl
  | case2 a =>
    by_cases ha : a = 0xaa
    · subst ha
      rfl
    · rw [sync_single_ne ha]
      cases y with
      | nil => exact (sync_single_ne ha).symm
      | cons b r => exact (if_neg fun h => ha h.1).symm.trans (sync_cons_cons a b r).symm
  | case3 a b rest h => rw [sync_cons_cons, if_pos h]
  | case4 a b rest h ih =>
    rw [sync_cons_cons, if_neg h, ih]
    exact ((sync_cons_cons a b (rest ++ y)).trans (if_neg h)).symm

theorem sync_append_of_le {x : Bytes} (y : Bytes) (h : 2 ≤ (sync x).length) : sync (x ++ y) = sync x ++ y := by
  fun_induction findMarker x with
  | case1 => cases h
  | case2 a => exact absurd (show 2 ≤ 1 from Nat.le_trans h (sync_length_le [a])) (by decide)
  | case3 a b rest hm =>
    rw [List.cons_append, List.cons_append, sync_cons_cons, sync_cons_cons, if_pos hm, if_pos hm]
    rfl
  | case4 a b rest hm ih =>
    rw [sync_cons_cons, if_neg hm] at h ⊢
    rw [List.cons_append, List.cons_append, sync_cons_cons, if_neg hm]
    exact ih h

/-- the `while True:` loop of `_receive_impl`: on what `sync` keeps, the first 20 bytes decide -/
def framer : Framer where
  norm := sync
  cut c := if c.length < 20 then none
    else if windowOk (c.take 20) then some (20, some (c.take 20)) else some (2, none)
  min := 2
  min_pos := by decide
  cut_min := by
    intro c n o h
    split at h
    · cases h
    · split at h <;> cases h <;> omega
  cut_append := by
    intro c r y h
    split at h
    · cases h
    · rw [← h, if_neg (by rw [List.length_append]; omega), List.take_append_of_le_length (by omega)]
  norm_length := sync_length_le
  norm_append := sync_append
  norm_cut := by
    intro x y h
    refine sync_append_of_le y (Nat.le_of_not_lt fun hlt => h (if_pos ?_))
    omega

theorem framer_waits_iff {c : Bytes} : framer.cut c = none ↔ c.length < 20 := by
  show (if _ then _ else _) = none ↔ _
  split
  · simpa
  · split <;> simpa using Nat.le_of_not_lt ‹_›

theorem feed_eq_run (buf data : Bytes) : feed buf data = framer.run (buf ++ data) := by
  refine framer.loop_eq_run (loop := loop) (fun n b acc => ?_) [] (by show _ < 2 * _; omega)
  rw [loop]
  dsimp only [framer, sync]
  cases findMarker b with
  | none =>
    dsimp only
    split <;> rfl
  | some s =>
    dsimp only
    by_cases hl : s + 20 > b.length
    · rw [if_pos hl, if_pos (by rw [List.length_drop]; omega)]
    · rw [if_neg hl, if_neg (show ¬ (b.drop s).length < 20 by rw [List.length_drop]; omega)]
      split <;> simp only [List.drop_drop] <;> rfl

theorem feedAll_eq (buf : Bytes) (reads : List Bytes) : feedAll buf reads = Reader.feedAll feed buf reads := by
  induction reads generalizing buf with
  | nil => rfl
  | cons d ds ih => simp only [feedAll, Reader.feedAll, ih]

/-- a well-framed packet: 20 bytes, starts with the marker, and no marker inside after the header
(as the property quantifies) -/
structure Framed (p : Bytes) : Prop where
  len : p.length = 20
  b0 : p.getD 0 0 = 0xaa
  b1 : p.getD 1 0 = 0x55
  inner : findMarker (p.drop 1) = none

/-- noise in which no `AA 55` occurs (a last byte `AA` may still begin one with what follows) -/
def MarkerFree (n : Bytes) : Prop := findMarker n = none

/-- a valid packet of the stream: well framed and with a matching checksum -/
structure Valid (p : Bytes) : Prop extends Framed p where
  sum : windowOk p = true

/-- a position in the stream at which a false packet starts: the marker is there and the 20 bytes from it pass the checksum -/
def falsePacketAt (s : Bytes) (k : Nat) : Prop :=
  (s.drop k).take 2 = [0xaa, 0x55] ∧ 20 ≤ (s.drop k).length ∧ windowOk ((s.drop k).take 20) = true

theorem Valid.head {p : Bytes} (hp : Valid p) : ∃ t, p = 0xaa :: 0x55 :: t := by
  match p, hp.len, hp.b0, hp.b1 with
  | a :: b :: t, _, h0, h1 =>
    obtain rfl : a = 0xaa := h0
    obtain rfl : b = 0x55 := h1
    exact ⟨t, rfl⟩

theorem Valid.whole {p : Bytes} (hp : Valid p) : framer.Whole p := fun rest => by
  refine ⟨?_, ?_⟩
  · obtain ⟨t, rfl⟩ := hp.head
    exact (sync_cons_cons _ _ _).trans (if_pos ⟨rfl, rfl⟩)
  · show (if _ then _ else _) = _
    rw [if_neg (by rw [List.length_append, hp.len]; omega), List.take_left' hp.len, if_pos hp.sum, hp.len]

theorem run_packets {ps : List Bytes} (hp : ∀ p ∈ ps, Valid p) : framer.run ps.flatten = ([], ps) := by
  have := framer.run_wholes (fun p h => (hp p h).whole) []
  rwa [List.append_nil, framer.run_none (b := []) rfl, List.append_nil] at this

theorem sync_markerFree {n : Bytes} (hn : MarkerFree n) :
    sync n = if n.getLast? = some 0xaa then [0xaa] else [] := by
  unfold sync
  rw [hn]

theorem sync_noise {n rest : Bytes} (hn : MarkerFree n) (h0 : rest[0]? ≠ some 0x55) (hne : rest ≠ []) :
    sync (n ++ rest) = sync rest := by
  rw [← sync_append, sync_markerFree hn]
  split
  · match rest, hne with
    | c :: r, _ => exact (sync_cons_cons 0xaa c r).trans (if_neg fun h => h0 (congrArg some h.2))
  · rfl

theorem run_noise_valid {n p : Bytes} (hn : MarkerFree n) (hp : Valid p) (rest : Bytes) :
    framer.run (n ++ (p ++ rest)) = ((framer.run rest).1, p :: (framer.run rest).2) := by
  have hw := framer.run_whole hp.whole rest
  obtain ⟨t, rfl⟩ := hp.head
  have h0 : (0xaa :: 0x55 :: (t ++ rest))[0]? ≠ some 0x55 := fun h => absurd (Option.some.inj h) (by decide)
  exact (framer.run_congr (sync_noise hn h0 (List.cons_ne_nil _ _))).trans hw

theorem run_lossless (segs : List (Bytes × Bytes)) (rest : Bytes)
    (hn : ∀ s ∈ segs, MarkerFree s.1) (hp : ∀ s ∈ segs, Valid s.2) :
    framer.run ((segs.map (fun s => s.1 ++ s.2)).flatten ++ rest) = ((framer.run rest).1, segs.map (·.2) ++ (framer.run rest).2) := by
  induction segs with
  | nil => rfl
  | cons s segs ih =>
    rw [List.map_cons, List.flatten_cons, List.append_assoc, List.append_assoc,
      run_noise_valid (hn s (by simp)) (hp s (by simp)),
      ih (fun q hq => hn q (by simp [hq])) (fun q hq => hp q (by simp [hq]))]
    rfl

theorem run_noise {n : Bytes} (hn : MarkerFree n) : (framer.run n).2 = [] := by
  rw [framer.run_none (framer_waits_iff.2 ?_)]
  show (sync n).length < 20
  rw [sync_markerFree hn]
  split <;> decide

theorem run_noise_packets {n : Bytes} {ps : List Bytes} (hn : MarkerFree n)
    (hp : ∀ p ∈ ps, Valid p) : (framer.run (n ++ ps.flatten)).2 = ps := by
  cases ps with
  | nil => rw [List.flatten_nil, List.append_nil, run_noise hn]
  | cons p ps =>
    rw [List.flatten_cons, run_noise_valid hn (hp p (by simp)), run_packets (fun q hq => hp q (by simp [hq]))]

/-- After arbitrary noise every packet of the run is delivered and nothing else, unless a window that starts in
the noise passes the checksum; even then the run is delivered from its second packet on.  The loop's buffer is
always the stream from some position on.  A window that fails its checksum only costs its marker, which lies
entirely inside the noise; one that passes swallows 20 bytes, so it ends inside the first packet at the latest,
and what is left of that packet contains no marker. -/
theorem run_resync {ps : List Bytes} (hp : ∀ p ∈ ps, Valid p) (noise : Bytes) :
    (framer.run (noise ++ ps.flatten)).2 = ps ∨
      (∃ k < noise.length, falsePacketAt (noise ++ ps.flatten) k) ∧
        ps.tail <:+ (framer.run (noise ++ ps.flatten)).2 := by
  induction hlen : noise.length using Nat.strongRecOn generalizing noise with
  | _ N ih =>
  subst hlen
  match noise with
  | [] => exact .inl (run_noise_packets rfl hp)
  | [a] => exact .inl (run_noise_packets rfl hp)
  | a :: c :: r =>
    by_cases hm : a = 0xaa ∧ c = 0x55
    · obtain ⟨rfl, rfl⟩ := hm
      have hsync : framer.norm (0xaa :: 0x55 :: r ++ ps.flatten) = 0xaa :: 0x55 :: r ++ ps.flatten :=
        (sync_cons_cons 0xaa 0x55 (r ++ ps.flatten)).trans (if_pos ⟨rfl, rfl⟩)
      by_cases hl : (0xaa :: 0x55 :: r ++ ps.flatten).length < 20
      · left
        cases ps with
        | nil => rw [framer.run_none (by rw [hsync]; exact framer_waits_iff.2 hl)]
        | cons p ps' =>
          rw [List.flatten_cons, List.length_append, List.length_append, (hp p (by simp)).len] at hl
          omega
      · by_cases hw : windowOk ((0xaa :: 0x55 :: r ++ ps.flatten).take 20) = true
        · have hc : framer.cut (framer.norm (0xaa :: 0x55 :: r ++ ps.flatten)) =
              some (20, some ((0xaa :: 0x55 :: r ++ ps.flatten).take 20)) := by
            rw [hsync]
            show (if _ then _ else _) = _
            rw [if_neg hl, if_pos hw]
          rw [framer.run_some hc, hsync]
          refine .inr ⟨⟨0, Nat.succ_pos _, rfl, Nat.le_of_not_lt hl, hw⟩, List.IsSuffix.trans ?_ (List.suffix_cons _ _)⟩
          by_cases hin : 20 ≤ (0xaa :: 0x55 :: r).length
          · rw [List.drop_append_of_le_length hin]
            rcases ih _ (by rw [List.length_drop]; omega) ((0xaa :: 0x55 :: r).drop 20) rfl with h | h
            · rw [h]
              exact List.tail_suffix _
            · exact h.2
          · cases ps with
            | nil => exact List.nil_suffix
            | cons p ps' =>
              have h1 := hp p (by simp)
              rw [List.drop_append, List.drop_eq_nil_of_le (by omega), List.nil_append, List.flatten_cons,
                List.drop_append_of_le_length (by rw [h1.len]; omega)]
              have hfree : MarkerFree (p.drop (20 - (0xaa :: 0x55 :: r).length)) := by
                have := findMarker_drop_none (20 - (0xaa :: 0x55 :: r).length - 1) h1.inner
                rwa [List.drop_drop, show 1 + (20 - (0xaa :: 0x55 :: r).length - 1) = 20 - (0xaa :: 0x55 :: r).length by
                  omega] at this
              rw [run_noise_packets hfree (fun q hq => hp q (by simp [hq]))]
              exact List.suffix_refl _
        · have hc : framer.cut (framer.norm (0xaa :: 0x55 :: r ++ ps.flatten)) = some (2, none) := by
            rw [hsync]
            show (if _ then _ else _) = _
            rw [if_neg hl, if_neg hw]
          rw [framer.run_some hc, hsync]
          rcases ih _ (Nat.lt_succ_of_lt (Nat.lt_succ_self _)) r rfl with h | ⟨⟨k, hk, hfa⟩, h⟩
          · exact .inl h
          · exact .inr ⟨⟨k + 2, Nat.succ_lt_succ (Nat.succ_lt_succ hk), hfa⟩, h⟩
    · have hsync : framer.norm (a :: c :: r ++ ps.flatten) = framer.norm (c :: r ++ ps.flatten) :=
        (sync_cons_cons a c (r ++ ps.flatten)).trans (if_neg hm)
      rw [framer.run_congr hsync]
      rcases ih _ (Nat.lt_succ_self _) (c :: r) rfl with h | ⟨⟨k, hk, hfa⟩, h⟩
      · exact .inl h
      · exact .inr ⟨⟨k + 1, Nat.succ_lt_succ hk, hfa⟩, h⟩

end N2k.Serial

/-
Cutting a byte stream into packets, once for all the gateway clients.  A framer looks at its buffer and either
waits for more bytes or consumes some of them, handing on a packet or not.  What makes the result independent of
how the stream arrived is that a decision, once taken, is taken again on every longer buffer.  The serial client
also forgets at once what can never start a packet (`norm`); the stream readers forget nothing.
-/
import N2k.Model.Reader
namespace N2k
open Reader (Bytes feedAll)

structure Framer where
  norm : Bytes → Bytes := id
  /-- on a normalised buffer: `none` = wait; `some (n, o)` = consume `n` bytes and hand on `o` -/
  cut : Bytes → Option (Nat × Option Bytes)
  /-- every cut consumes at least this much (the model's loops get their fuel from it) -/
  min : Nat
  min_pos : 0 < min
  cut_min : ∀ {c n o}, cut c = some (n, o) → min ≤ n ∧ n ≤ c.length
  cut_append : ∀ {c r} (y : Bytes), cut c = some r → cut (c ++ y) = some r
  norm_length : ∀ b, (norm b).length ≤ b.length := by intro _; exact Nat.le_refl _
  norm_append : ∀ x y, norm (norm x ++ y) = norm (x ++ y) := by intro _ _; rfl
  norm_cut : ∀ {x} (y : Bytes), cut (norm x) ≠ none → norm (x ++ y) = norm x ++ y := by intro _ _ _; rfl

namespace Framer
variable (F : Framer)

theorem drop_lt {b : Bytes} {n : Nat} {o : Option Bytes} (h : F.cut (F.norm b) = some (n, o)) :
    ((F.norm b).drop n).length < b.length := by
  have := F.cut_min h
  have := F.norm_length b
  have := F.min_pos
  rw [List.length_drop]
  omega

def run (b : Bytes) : Bytes × List Bytes :=
  match _h : F.cut (F.norm b) with
  | none => (F.norm b, [])
  | some (n, o) => ((run ((F.norm b).drop n)).1, o.toList ++ (run ((F.norm b).drop n)).2)
termination_by b.length
decreasing_by all_goals exact F.drop_lt ‹_›

theorem run_none {b : Bytes} (h : F.cut (F.norm b) = none) : F.run b = (F.norm b, []) := by
  rw [run]
  split <;> simp_all

theorem run_some {b : Bytes} {n : Nat} {o : Option Bytes} (h : F.cut (F.norm b) = some (n, o)) :
    F.run b = ((F.run ((F.norm b).drop n)).1, o.toList ++ (F.run ((F.norm b).drop n)).2) := by
  rw [run]
  split <;> simp_all

theorem loop_eq_run {loop : Nat → Bytes → List Bytes → Bytes × List Bytes}
    (hl : ∀ n b acc, loop (n + 1) b acc = match F.cut (F.norm b) with
      | none => (F.norm b, acc.reverse)
      | some (k, o) => loop n ((F.norm b).drop k) (o.toList ++ acc))
    {fuel : Nat} {b : Bytes} (acc : List Bytes) (h : b.length < F.min * fuel) :
    loop fuel b acc = ((F.run b).1, acc.reverse ++ (F.run b).2) := by
  induction fuel generalizing b acc with
  | zero => omega
  | succ n ih =>
    rw [hl]
    cases hc : F.cut (F.norm b) with
    | none => simp [F.run_none hc]
    | some r =>
      obtain ⟨k, o⟩ := r
      have := F.cut_min hc
      have := F.norm_length b
      rw [F.run_some hc]
      dsimp only
      rw [ih _ (by
        rw [List.length_drop]
        rw [Nat.mul_succ] at h
        omega)]
      cases o <;> simp

theorem run_congr {a b : Bytes} (h : F.norm a = F.norm b) : F.run a = F.run b := by
  cases hc : F.cut (F.norm b) with
  | none => rw [F.run_none hc, F.run_none (h ▸ hc), h]
  | some r => rw [F.run_some hc, F.run_some (h ▸ hc), h]

theorem run_append (x y : Bytes) :
    F.run (x ++ y) = ((F.run ((F.run x).1 ++ y)).1, (F.run x).2 ++ (F.run ((F.run x).1 ++ y)).2) := by
  fun_induction F.run x with
  | case1 x hc => simp [F.run_congr (F.norm_append x y)]
  | case2 x n o hc ih =>
    have hn := F.norm_cut y (by rw [hc]; simp)
    rw [F.run_some (b := x ++ y) (by rw [hn]; exact F.cut_append y hc), hn,
      List.drop_append_of_le_length (F.cut_min hc).2, ih]
    simp

theorem run_rest_waits_normal (b : Bytes) : F.cut (F.norm (F.run b).1) = none ∧ F.norm (F.run b).1 = (F.run b).1 := by
  fun_induction F.run b with
  | case1 b hc =>
    have := F.norm_append b []
    simp only [List.append_nil] at this
    rw [this]
    exact ⟨hc, rfl⟩
  | case2 b n o hc ih => exact ih

theorem run_normal (b : Bytes) : F.run (F.run b).1 = ((F.run b).1, []) := by
  rw [F.run_none (F.run_rest_waits_normal b).1, (F.run_rest_waits_normal b).2]

theorem feedAll_cons (f : Bytes → Bytes → Bytes × List Bytes) (buf d : Bytes) (ds : List Bytes) :
    feedAll f buf (d :: ds) = ((feedAll f (f buf d).1 ds).1, (f buf d).2 ++ (feedAll f (f buf d).1 ds).2) :=
  rfl

theorem feedAll_eq_run {feed : Bytes → Bytes → Bytes × List Bytes} (hf : ∀ buf d, feed buf d = F.run (buf ++ d))
    {buf : Bytes} (reads : List Bytes) (h : F.run buf = (buf, [])) :
    feedAll feed buf reads = F.run (buf ++ reads.flatten) := by
  induction reads generalizing buf with
  | nil => simp [feedAll, h]
  | cons d ds ih =>
    rw [feedAll_cons, hf, ih (F.run_normal _), List.flatten_cons, ← List.append_assoc, F.run_append (buf ++ d)]

theorem forall_mem_run {P : Bytes → Prop} (h : ∀ {c n w}, F.cut c = some (n, some w) → P w) (b : Bytes) :
    ∀ w ∈ (F.run b).2, P w := by
  fun_induction F.run b with
  | case1 =>
    intro w hw
    cases hw
  | case2 b n o hc ih =>
    intro w hw
    rcases List.mem_append.1 hw with h1 | h1
    · cases o with
      | none => cases h1
      | some v =>
        obtain rfl := List.mem_singleton.1 h1
        exact h hc
    · exact ih w h1

def Whole (p : Bytes) : Prop :=
  ∀ rest, F.norm (p ++ rest) = p ++ rest ∧ F.cut (p ++ rest) = some (p.length, some p)

theorem run_whole {p : Bytes} (hp : F.Whole p) (rest : Bytes) :
    F.run (p ++ rest) = ((F.run rest).1, p :: (F.run rest).2) := by
  rw [F.run_some (by rw [(hp rest).1]; exact (hp rest).2), (hp rest).1, List.drop_left]
  rfl

theorem run_wholes {ps : List Bytes} (hp : ∀ p ∈ ps, F.Whole p) (t : Bytes) :
    F.run (ps.flatten ++ t) = ((F.run t).1, ps ++ (F.run t).2) := by
  induction ps with
  | nil => rfl
  | cons p ps ih =>
    rw [List.flatten_cons, List.append_assoc, F.run_whole (hp p (by simp)), ih (fun q hq => hp q (by simp [hq]))]
    rfl

end Framer
end N2k

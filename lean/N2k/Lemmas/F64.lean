/-
Facts about the rational model of IEEE binary64 arithmetic in `N2k.Model.Num`:
`pow2`/`pow10` are the usual powers, `ilog2` is ⌊log₂⌋, `rhe` is within 1/2,
`rne` has relative error 2^-53 in the normal range, is odd, monotone and
idempotent, fixes integers up to 2^53, and decode-then-encode of a scaled
integer is the identity (`scale_roundtrip*`).
-/
import N2k.Model.Num
import Mathlib.Data.Rat.Floor
import Mathlib.Tactic.Linarith
import Mathlib.Tactic.Positivity
import Mathlib.Tactic.NormNum
import Mathlib.Tactic.Ring
import Mathlib.Algebra.Order.Field.Power

namespace N2k

private theorem natpow_eq (b : ℕ) (e : ℤ) :
    (if 0 ≤ e then ((b ^ e.toNat : ℕ) : ℚ) else 1 / ((b ^ (-e).toNat : ℕ) : ℚ)) = (b:ℚ) ^ e := by
  split_ifs with h
  · obtain ⟨n, rfl⟩ := Int.eq_ofNat_of_zero_le h
    simp
  · obtain ⟨n, rfl⟩ : ∃ n : ℕ, e = -(n:ℤ) := ⟨(-e).toNat, by omega⟩
    simp

theorem pow2_eq (e : Int) : pow2 e = (2:ℚ) ^ e := natpow_eq 2 e

theorem pow10_eq (e : Int) : pow10 e = (10:ℚ) ^ e := natpow_eq 10 e

theorem pow2_pos (e : Int) : 0 < pow2 e := by
  rw [pow2_eq]
  positivity

theorem pow10_pos (e : Int) : 0 < pow10 e := by
  rw [pow10_eq]
  positivity

theorem pow2_add (a b : Int) : pow2 (a + b) = pow2 a * pow2 b := by
  simp only [pow2_eq]
  exact zpow_add₀ (by norm_num) a b

theorem pow2_le_pow2 {a b : Int} (h : a ≤ b) : pow2 a ≤ pow2 b := by
  simp only [pow2_eq]
  exact zpow_le_zpow_right₀ (by norm_num) h

theorem pow2_lt_pow2_iff {a b : Int} : pow2 a < pow2 b ↔ a < b := by
  simp only [pow2_eq]
  exact zpow_lt_zpow_iff_right₀ (by norm_num)

/-! ### `ilog2 q` is the exponent `e` with `2^e ≤ q < 2^(e+1)` -/

private theorem natlog (n : Nat) (hn : n ≠ 0) :
    pow2 (Nat.log2 n) ≤ n ∧ (n:ℚ) < pow2 (Nat.log2 n + 1) := by
  rw [← Nat.cast_succ, pow2_eq, pow2_eq, zpow_natCast, zpow_natCast]
  exact ⟨by exact_mod_cast Nat.log2_self_le hn, by exact_mod_cast Nat.lt_log2_self (n := n)⟩

theorem ilog2_spec (q : ℚ) (hq : 0 < q) :
    pow2 (ilog2 q) ≤ q ∧ q < pow2 (ilog2 q + 1) := by
  have hn : 0 < q.num := Rat.num_pos.mpr hq
  have hqd : q * q.den = q.num.natAbs := by
    rw [Rat.mul_den_eq_num, ← Int.cast_natCast, Int.natAbs_of_nonneg hn.le]
  obtain ⟨n1, n2⟩ := natlog q.num.natAbs (by omega)
  obtain ⟨d1, d2⟩ := natlog q.den q.den_nz
  simp only [ilog2]
  generalize (Nat.log2 q.num.natAbs : ℤ) = a at n1 n2 ⊢
  generalize (Nat.log2 q.den : ℤ) = b at d1 d2 ⊢
  have up : q < pow2 (a - b + 1) := by
    refine lt_of_mul_lt_mul_right ?_ (pow2_pos b).le
    rw [← pow2_add, sub_add_eq_add_sub, sub_add_cancel]
    exact (hqd ▸ mul_le_mul_of_nonneg_left d1 hq.le).trans_lt n2
  have lo : pow2 (a - b - 1) ≤ q := by
    refine le_of_mul_le_mul_right ?_ (pow2_pos (b + 1))
    rw [← pow2_add, sub_sub, sub_add_cancel]
    exact n1.trans (hqd ▸ mul_le_mul_of_nonneg_left d2.le hq.le)
  split_ifs with h
  · exact ⟨lo, by rwa [sub_add_cancel]⟩
  · exact ⟨not_lt.mp h, up⟩

theorem ilog2_ge_of_le (q : ℚ) (e : ℤ) (h : pow2 e ≤ q) : e ≤ ilog2 q := by
  have := pow2_lt_pow2_iff.mp (h.trans_lt (ilog2_spec q ((pow2_pos e).trans_le h)).2)
  omega

theorem ilog2_lt_of_lt (q : ℚ) (e : ℤ) (hq : 0 < q) (h : q < pow2 e) : ilog2 q < e := by
  have h1 := (ilog2_spec q hq).1
  exact pow2_lt_pow2_iff.mp (lt_of_le_of_lt h1 h)

theorem ilog2_mono {a b : ℚ} (ha : 0 < a) (h : a ≤ b) : ilog2 a ≤ ilog2 b :=
  ilog2_ge_of_le b _ (le_trans (ilog2_spec a ha).1 h)

theorem rhe_err (m : ℚ) : |((rhe m : Int) : ℚ) - m| ≤ 1/2 := by
  have h1 : ((m.floor : ℤ) : ℚ) ≤ m := Int.floor_le m
  have h2 : m < (m.floor : ℤ) + 1 := Int.lt_floor_add_one m
  have lo : m - m.floor ≤ 1/2 → |((m.floor : ℤ) : ℚ) - m| ≤ 1/2 := fun h => by
    rwa [abs_sub_comm, abs_of_nonneg (sub_nonneg.mpr h1)]
  have hi : 1/2 ≤ m - m.floor → |((m.floor + 1 : ℤ) : ℚ) - m| ≤ 1/2 := fun h => by
    rw [Int.cast_add, Int.cast_one, abs_of_pos (sub_pos.mpr h2)]
    linarith
  rw [rhe]
  split_ifs with a b
  · exact lo a.le
  · exact hi b.le
  · exact lo (not_lt.mp b)
  · exact hi (not_lt.mp a)

theorem rhe_eq_of_close (y : ℚ) (n : ℤ) (h : |y - n| < 1/2) : rhe y = n := by
  have h1 := (abs_sub_le _ y _).trans_lt (add_lt_add_of_le_of_lt (rhe_err y) h)
  rw [add_halves, ← Int.cast_sub, ← Int.cast_abs, ← Int.cast_one, Int.cast_lt] at h1
  exact sub_eq_zero.mp (Int.abs_lt_one_iff.mp h1)

theorem rhe_int (n : ℤ) : rhe (n : ℚ) = n := by
  apply rhe_eq_of_close
  simp

theorem rhe_mono {x y : ℚ} (h : x ≤ y) : rhe x ≤ rhe y := by
  by_contra hc
  have h1 : ((rhe y : ℤ) : ℚ) + 1 ≤ rhe x := by exact_mod_cast not_le.mp hc
  have hx := (abs_le.mp (rhe_err x)).2
  have hy := (abs_le.mp (rhe_err y)).1
  obtain rfl : x = y := le_antisymm h (by linarith only [h1, hx, hy])
  exact hc le_rfl

/-! ### rounding to a grid `2^t·ℤ` -/

/-- nearest (ties to even) multiple of `2^t` -/
def rgrid (t : ℤ) (a : ℚ) : ℚ := ((rhe (a / pow2 t) : ℤ) : ℚ) * pow2 t

theorem rnePosP_eq (p : ℕ) (emin : ℤ) (a : ℚ) :
    rnePosP p emin a = rgrid (max (ilog2 a) emin - ((p:ℤ) - 1)) a := rfl

theorem rgrid_err (t : ℤ) (a : ℚ) : |rgrid t a - a| ≤ pow2 (t - 1) := by
  have up := pow2_pos t
  have key : rgrid t a - a = (((rhe (a / pow2 t) : ℤ) : ℚ) - a / pow2 t) * pow2 t := by
    rw [rgrid, sub_mul, div_mul_cancel₀ a up.ne']
  rw [key, abs_mul, abs_of_pos up, sub_eq_add_neg t, pow2_add, mul_comm (pow2 t),
    show pow2 (-1) = 1 / 2 by rw [pow2_eq]; norm_num]
  exact mul_le_mul_of_nonneg_right (rhe_err _) up.le

theorem rgrid_mono (t : ℤ) {a b : ℚ} (h : a ≤ b) : rgrid t a ≤ rgrid t b :=
  mul_le_mul_of_nonneg_right
    (Int.cast_le.mpr (rhe_mono (div_le_div_of_nonneg_right h (pow2_pos t).le))) (pow2_pos t).le

/-- points of a coarser grid are fixed -/
theorem rgrid_fix {t e : ℤ} (k : ℤ) (h : t ≤ e) : rgrid t (k * pow2 e) = k * pow2 e := by
  obtain ⟨m, rfl⟩ := Int.le.dest h
  have hm : pow2 (t + m) = ((2 ^ m : ℤ) : ℚ) * pow2 t := by
    rw [pow2_add, pow2_eq m, zpow_natCast, mul_comm, Int.cast_pow, Int.cast_ofNat]
  rw [rgrid, hm, ← mul_assoc, mul_div_cancel_right₀ _ (pow2_pos t).ne', ← Int.cast_mul, rhe_int]

theorem rgrid_pow2 {t e : ℤ} (h : t ≤ e) : rgrid t (pow2 e) = pow2 e := by
  simpa using rgrid_fix 1 h

theorem rneP_zero (p : ℕ) (emin : ℤ) : rneP p emin 0 = 0 := by simp [rneP]

theorem rneP_of_pos (p : ℕ) (emin : ℤ) {q : ℚ} (hq : 0 < q) :
    rneP p emin q = rnePosP p emin q := by
  simp [rneP, hq.ne', not_lt.mpr hq.le]

theorem rneP_of_neg (p : ℕ) (emin : ℤ) {q : ℚ} (hq : q < 0) :
    rneP p emin q = -rnePosP p emin (-q) := by
  simp [rneP, hq.ne, hq]

theorem rneP_neg (p : ℕ) (emin : ℤ) (q : ℚ) : rneP p emin (-q) = -rneP p emin q := by
  rcases lt_trichotomy q 0 with h | h | h
  · rw [rneP_of_neg p emin h, rneP_of_pos p emin (by linarith : 0 < -q), neg_neg]
  · subst h
    simp [rneP_zero]
  · rw [rneP_of_pos p emin h, rneP_of_neg p emin (by linarith : -q < 0), neg_neg]

/-- half a unit in the last place, in the binade of `a` or the subnormal one -/
theorem rnePosP_err (p : ℕ) (emin : ℤ) {a : ℚ} (ha : 0 < a) :
    |rnePosP p emin a - a| ≤ max (pow2 (-(p:ℤ)) * a) (pow2 (emin - p)) := by
  have h := rgrid_err (max (ilog2 a) emin - ((p:ℤ) - 1)) a
  rw [← rnePosP_eq, sub_sub, sub_add_cancel] at h
  refine h.trans ?_
  rcases le_total (ilog2 a) emin with hm | hm
  · rw [max_eq_right hm]
    exact le_max_right _ _
  · rw [max_eq_left hm, sub_eq_add_neg, add_comm, pow2_add]
    exact (mul_le_mul_of_nonneg_left (ilog2_spec a ha).1 (pow2_pos _).le).trans (le_max_left _ _)

theorem rneP_err (p : ℕ) (emin : ℤ) (q : ℚ) :
    |rneP p emin q - q| ≤ max (pow2 (-(p:ℤ)) * |q|) (pow2 (emin - p)) := by
  rcases lt_trichotomy q 0 with h | h | h
  · rw [rneP_of_neg p emin h, abs_of_neg h, ← abs_neg, neg_sub, sub_neg_eq_add, add_comm,
      ← sub_neg_eq_add]
    exact rnePosP_err p emin (neg_pos.mpr h)
  · subst h
    simp [rneP_zero, (pow2_pos _).le]
  · rw [rneP_of_pos p emin h, abs_of_pos h]
    exact rnePosP_err p emin h

theorem rneP_err_rel (p : ℕ) (emin : ℤ) (q : ℚ) (hn : pow2 emin ≤ |q|) :
    |rneP p emin q - q| ≤ pow2 (-(p:ℤ)) * |q| := by
  refine (rneP_err p emin q).trans (max_le le_rfl ?_)
  rw [sub_eq_add_neg, add_comm, pow2_add]
  exact mul_le_mul_of_nonneg_left hn (pow2_pos _).le

theorem rneP_err_abs (p : ℕ) (emin : ℤ) (q : ℚ) :
    |rneP p emin q - q| ≤ pow2 (-(p:ℤ)) * |q| + pow2 (emin - p) :=
  (rneP_err p emin q).trans
    (max_le_add_of_nonneg (mul_nonneg (pow2_pos _).le (abs_nonneg q)) (pow2_pos _).le)

/-- representable with `p` significant bits and least normal exponent `emin` (no largest exponent: overflow is not modelled) -/
def IsFloatP (p : ℕ) (emin : ℤ) (x : ℚ) : Prop :=
  ∃ k e : ℤ, |k| ≤ 2 ^ p ∧ emin - ((p:ℤ) - 1) ≤ e ∧ x = (k:ℚ) * pow2 e

theorem rnePosP_nonneg (p : ℕ) (emin : ℤ) {a : ℚ} (ha : 0 < a) : 0 ≤ rnePosP p emin a := by
  have := rgrid_mono (max (ilog2 a) emin - ((p:ℤ) - 1)) ha.le
  rwa [rgrid, zero_div, ← Int.cast_zero, rhe_int, Int.cast_zero, zero_mul, ← rnePosP_eq] at this

/-- rounding stays inside the binade `[2^E, 2^(E+1)]`, `E = max (ilog2 a) emin` -/
theorem rnePosP_le (p : ℕ) (hp : 1 ≤ p) (emin : ℤ) {a : ℚ} (ha : 0 < a) :
    rnePosP p emin a ≤ pow2 (max (ilog2 a) emin + 1) := by
  have h : a ≤ pow2 (max (ilog2 a) emin + 1) :=
    (ilog2_spec a ha).2.le.trans (pow2_le_pow2 (by omega))
  rw [rnePosP_eq]
  exact (rgrid_mono _ h).trans_eq (rgrid_pow2 (by omega))

theorem le_rnePosP (p : ℕ) (hp : 1 ≤ p) (emin : ℤ) {a : ℚ} (ha : 0 < a) (hn : emin ≤ ilog2 a) :
    pow2 (ilog2 a) ≤ rnePosP p emin a := by
  rw [rnePosP_eq, max_eq_left hn]
  exact (rgrid_pow2 (by omega)).symm.trans_le (rgrid_mono _ (ilog2_spec a ha).1)

theorem rneP_nonneg (p : ℕ) (emin : ℤ) {q : ℚ} (hq : 0 ≤ q) : 0 ≤ rneP p emin q := by
  rcases hq.eq_or_lt with h | h
  · subst h
    rw [rneP_zero]
  · rw [rneP_of_pos p emin h]
    exact rnePosP_nonneg p emin h

theorem rneP_nonpos (p : ℕ) (emin : ℤ) {q : ℚ} (hq : q ≤ 0) : rneP p emin q ≤ 0 := by
  have := rneP_nonneg p emin (neg_nonneg.mpr hq)
  rwa [rneP_neg, neg_nonneg] at this

theorem rnePosP_isFloatP (p : ℕ) (hp : 1 ≤ p) (emin : ℤ) {a : ℚ} (ha : 0 < a) :
    IsFloatP p emin (rnePosP p emin a) := by
  set t := max (ilog2 a) emin - ((p:ℤ) - 1) with ht
  have up := pow2_pos t
  refine ⟨rhe (a / pow2 t), t, ?_, by omega, rfl⟩
  have h0 := rnePosP_nonneg p emin ha
  have h1 := rnePosP_le p hp emin ha
  rw [show max (ilog2 a) emin + 1 = t + p by omega, pow2_add, pow2_eq p, zpow_natCast, mul_comm] at h1
  rw [rnePosP_eq, ← ht, rgrid] at h0 h1
  have h0' : (0:ℚ) ≤ (rhe (a / pow2 t) : ℤ) := nonneg_of_mul_nonneg_left h0 up
  rw [abs_of_nonneg (by exact_mod_cast h0')]
  exact_mod_cast le_of_mul_le_mul_right h1 up

theorem IsFloatP.neg {p : ℕ} {emin : ℤ} {x : ℚ} : IsFloatP p emin x → IsFloatP p emin (-x) := by
  rintro ⟨k, e, hk, he, rfl⟩
  exact ⟨-k, e, by rwa [abs_neg], he, by push_cast; ring⟩

theorem rneP_isFloatP (p : ℕ) (hp : 1 ≤ p) (emin : ℤ) (q : ℚ) : IsFloatP p emin (rneP p emin q) := by
  rcases lt_trichotomy q 0 with h | h | h
  · rw [rneP_of_neg p emin h]
    exact (rnePosP_isFloatP p hp emin (neg_pos.mpr h)).neg
  · subst h
    exact ⟨0, emin - ((p:ℤ) - 1), by simp, le_refl _, by simp [rneP_zero]⟩
  · rw [rneP_of_pos p emin h]
    exact rnePosP_isFloatP p hp emin h

theorem rnePosP_fix (p : ℕ) (hp : 1 ≤ p) (emin : ℤ) (k e : ℤ) (hk0 : 0 < k) (hk : k ≤ 2 ^ p)
    (he : emin - ((p:ℤ) - 1) ≤ e) :
    rnePosP p emin ((k:ℚ) * pow2 e) = (k:ℚ) * pow2 e := by
  have ha : (0:ℚ) < (k:ℚ) * pow2 e := mul_pos (by exact_mod_cast hk0) (pow2_pos e)
  have hle : (k:ℚ) * pow2 e ≤ pow2 (p + e) := by
    rw [pow2_add, pow2_eq p, zpow_natCast]
    exact mul_le_mul_of_nonneg_right (by exact_mod_cast hk) (pow2_pos e).le
  rcases hle.eq_or_lt with h | h
  · have := ilog2_lt_of_lt _ (p + e + 1) (pow2_pos _) (pow2_lt_pow2_iff.mpr (lt_add_one _))
    rw [h, rnePosP_eq]
    exact rgrid_pow2 (by omega)
  · have := ilog2_lt_of_lt _ _ ha h
    rw [rnePosP_eq]
    exact rgrid_fix k (by omega)

theorem rneP_of_isFloatP (p : ℕ) (hp : 1 ≤ p) (emin : ℤ) {x : ℚ} (hx : IsFloatP p emin x) :
    rneP p emin x = x := by
  obtain ⟨k, e, hk, he, rfl⟩ := hx
  have pos : ∀ k : ℤ, 0 < k → |k| ≤ 2 ^ p → rneP p emin ((k:ℚ) * pow2 e) = (k:ℚ) * pow2 e := fun k h hk => by
    rw [rneP_of_pos p emin (mul_pos (Int.cast_pos.mpr h) (pow2_pos e)),
      rnePosP_fix p hp emin k e h (le_of_abs_le hk) he]
  rcases lt_trichotomy k 0 with h | rfl | h
  · have := pos (-k) (neg_pos.mpr h) (by rwa [abs_neg])
    rwa [Int.cast_neg, neg_mul, rneP_neg, neg_inj] at this
  · rw [Int.cast_zero, zero_mul, rneP_zero]
  · exact pos k h hk

theorem rneP_idem (p : ℕ) (hp : 1 ≤ p) (emin : ℤ) (q : ℚ) :
    rneP p emin (rneP p emin q) = rneP p emin q :=
  rneP_of_isFloatP p hp emin (rneP_isFloatP p hp emin q)

theorem rnePosP_mono (p : ℕ) (hp : 1 ≤ p) (emin : ℤ) {a b : ℚ} (ha : 0 < a) (hab : a ≤ b) :
    rnePosP p emin a ≤ rnePosP p emin b := by
  have hb : 0 < b := lt_of_lt_of_le ha hab
  rcases (max_le_max_right emin (ilog2_mono ha hab)).eq_or_lt with h | h
  · rw [rnePosP_eq, rnePosP_eq, h]
    exact rgrid_mono _ hab
  · -- different binades: the power of two between them is on both grids
    exact (rnePosP_le p hp emin ha).trans ((pow2_le_pow2 (by omega)).trans
      (le_rnePosP p hp emin hb (by omega)))

theorem rneP_mono (p : ℕ) (hp : 1 ≤ p) (emin : ℤ) {a b : ℚ} (hab : a ≤ b) :
    rneP p emin a ≤ rneP p emin b := by
  rcases lt_or_ge 0 a with ha | ha
  · rw [rneP_of_pos p emin ha, rneP_of_pos p emin (ha.trans_le hab)]
    exact rnePosP_mono p hp emin ha hab
  rcases lt_or_ge b 0 with hb | hb
  · rw [rneP_of_neg p emin hb, rneP_of_neg p emin (hab.trans_lt hb)]
    exact neg_le_neg (rnePosP_mono p hp emin (neg_pos.mpr hb) (neg_le_neg hab))
  · exact (rneP_nonpos p emin ha).trans (rneP_nonneg p emin hb)

/-! ### binary64: `rne = rneP 53 (-1022)` -/

theorem rne_zero : rne 0 = 0 := rneP_zero 53 (-1022)

theorem rne_neg (q : ℚ) : rne (-q) = -rne q := rneP_neg 53 (-1022) q

theorem pow2_le_of_ilog2 {q : ℚ} {e : ℤ} (hn : e ≤ ilog2 |q|) (hq : q ≠ 0) : pow2 e ≤ |q| :=
  (pow2_le_pow2 hn).trans (ilog2_spec _ (abs_pos.mpr hq)).1

theorem rne_err (q : ℚ) (hn : -1022 ≤ ilog2 |q|) (hq : q ≠ 0) :
    |rne q - q| ≤ pow2 (-53) * |q| :=
  rneP_err_rel 53 (-1022) q (pow2_le_of_ilog2 hn hq)

/-- no side condition: gradual underflow has spacing `2^-1074` -/
theorem rne_err_abs (q : ℚ) : |rne q - q| ≤ pow2 (-53) * |q| + pow2 (-1075) :=
  rneP_err_abs 53 (-1022) q

theorem rne_nonneg {q : ℚ} (hq : 0 ≤ q) : 0 ≤ rne q := rneP_nonneg 53 (-1022) hq

theorem rne_nonpos {q : ℚ} (hq : q ≤ 0) : rne q ≤ 0 := rneP_nonpos 53 (-1022) hq

theorem rne_mono {a b : ℚ} (h : a ≤ b) : rne a ≤ rne b := rneP_mono 53 (by norm_num) (-1022) h

theorem rne_abs (q : ℚ) : rne |q| = |rne q| := by
  rcases le_total 0 q with h | h
  · rw [abs_of_nonneg h, abs_of_nonneg (rne_nonneg h)]
  · rw [abs_of_nonpos h, abs_of_nonpos (rne_nonpos h), rne_neg]

theorem rne_idem (q : ℚ) : rne (rne q) = rne q := rneP_idem 53 (by norm_num) (-1022) q

theorem rne_mul_pow2 (k e : ℤ) (hk : |k| ≤ 2 ^ 53) (he : -1074 ≤ e) :
    rne ((k:ℚ) * pow2 e) = (k:ℚ) * pow2 e :=
  rneP_of_isFloatP 53 (by norm_num) (-1022) ⟨k, e, hk, by push_cast; omega, rfl⟩

theorem rne_pow2 (e : ℤ) (he : -1074 ≤ e) : rne (pow2 e) = pow2 e := by
  simpa using rne_mul_pow2 1 e (by norm_num) he

theorem rne_int_exact (n : ℤ) (h : |n| ≤ 2 ^ 53) : rne (n : ℚ) = n := by
  simpa [pow2_eq] using rne_mul_pow2 n 0 h (by norm_num)

/-- rounding does not cross a power of two -/
theorem pow2_le_abs_rne {q : ℚ} {e : ℤ} (he : -1074 ≤ e) (h : pow2 e ≤ |q|) : pow2 e ≤ |rne q| := by
  rw [← rne_abs, ← rne_pow2 e he]
  exact rne_mono h

theorem Lit.val_idem (l : Lit) (hf : l.isFloat = true) : rne l.val = l.val := by
  unfold Lit.val
  rw [if_pos hf]
  exact rne_idem _

/-! ### relative error `|x - x₀| ≤ δ·|x₀|`: of `rne` in the normal range, and how it composes -/

theorem pow2_m53 : pow2 (-53) = 1 / 2 ^ 53 := by
  rw [pow2_eq]
  norm_num

theorem rne_rel {e : ℤ} (he : -1022 ≤ e) {q : ℚ} (h : pow2 e ≤ |q|) : |rne q - q| ≤ 1 / 2 ^ 53 * |q| :=
  pow2_m53 ▸ rneP_err_rel 53 (-1022) q ((pow2_le_pow2 he).trans h)

theorem rel_trans {x y z δ δ' : ℚ} (hδ : 0 ≤ δ) (h : |x - y| ≤ δ * |y|) (h' : |y - z| ≤ δ' * |z|) :
    |x - z| ≤ (δ + δ' + δ * δ') * |z| := by
  have h1 := abs_sub_le x y z
  have h2 : δ * |y| ≤ δ * (|z| + δ' * |z|) :=
    mul_le_mul_of_nonneg_left (by linarith [abs_sub_abs_le_abs_sub y z]) hδ
  linarith

theorem rel_mul {x x₀ y y₀ δ δ' : ℚ} (h : |x - x₀| ≤ δ * |x₀|)
    (h' : |y - y₀| ≤ δ' * |y₀|) : |x * y - x₀ * y₀| ≤ (δ + δ' + δ * δ') * |x₀ * y₀| := by
  have hx : |x| ≤ |x₀| + δ * |x₀| := by linarith [abs_sub_abs_le_abs_sub x x₀]
  have h1 : |x| * |y - y₀| ≤ (|x₀| + δ * |x₀|) * (δ' * |y₀|) :=
    mul_le_mul hx h' (abs_nonneg _) ((abs_nonneg _).trans hx)
  have h2 := mul_le_mul_of_nonneg_right h (abs_nonneg y₀)
  rw [show x * y - x₀ * y₀ = x * (y - y₀) + (x - x₀) * y₀ by ring, abs_mul x₀]
  refine (abs_add_le _ _).trans ?_
  rw [abs_mul, abs_mul]
  linarith

theorem rel_abs_ge {x x₀ δ : ℚ} (h : |x - x₀| ≤ δ * |x₀|) : (1 - δ) * |x₀| ≤ |x| := by
  linarith [abs_sub_abs_le_abs_sub x₀ x, abs_sub_comm x x₀]

theorem rel_div {x x₀ r δ : ℚ} (hr : 0 < r) (h : |x - x₀ * r| ≤ δ * |x₀ * r|) :
    |x / r - x₀| ≤ δ * |x₀| := by
  rw [show x / r - x₀ = (x - x₀ * r) / r by rw [sub_div, mul_div_cancel_right₀ _ hr.ne'],
    abs_div, abs_of_pos hr, div_le_iff₀ hr]
  rwa [abs_mul, abs_of_pos hr, ← mul_assoc] at h

theorem le_abs_int_mul {n : ℤ} (hz : n ≠ 0) {r : ℚ} (hr : 0 ≤ r) : r ≤ |(n:ℚ) * r| := by
  rw [abs_mul, abs_of_nonneg hr]
  exact le_mul_of_one_le_left hr (by exact_mod_cast Int.one_le_abs hz)

/-- decode-then-encode of a scaled integer: `round((n*r)/r) = n` for `|n| ≤ 2^48`, when `n·r` is normal.
Two roundings of relative error `u = 2^-53` leave `|y - n| ≤ (2u+u²)·2^48 < 1/2`. -/
theorem scale_roundtrip' (n : ℤ) (r : ℚ) (hr : 0 < r) (hn : |(n:ℚ)| ≤ 2^48)
    (h1 : n ≠ 0 → pow2 (-1022) ≤ |(n:ℚ) * r|) :
    rhe (rne (rne ((n:ℚ) * r) / r)) = n := by
  by_cases hz : n = 0
  · subst hz
    simp only [Int.cast_zero, zero_mul, rne_zero, zero_div]
    exact rhe_int 0
  have d1 := rel_div hr (rne_rel le_rfl (h1 hz))
  have hn1 : (1:ℚ) ≤ |(n:ℚ)| := by exact_mod_cast Int.one_le_abs hz
  have h2 : pow2 (-1) ≤ |rne ((n:ℚ) * r) / r| := by
    refine le_trans ?_ (rel_abs_ge d1)
    rw [pow2_eq]
    exact le_trans (by norm_num) (mul_le_mul_of_nonneg_left hn1 (by norm_num))
  apply rhe_eq_of_close
  exact (rel_trans (by norm_num) (rne_rel (by norm_num) h2) d1).trans_lt
    ((mul_le_mul_of_nonneg_left hn (by norm_num)).trans_lt (by norm_num))

theorem scale_roundtrip (n : ℤ) (r : ℚ) (hr : 0 < r) (hn : |(n:ℚ)| ≤ 2^48)
    (h1 : n ≠ 0 → -1022 ≤ ilog2 |(n:ℚ) * r|)
    (h2 : n ≠ 0 → -1022 ≤ ilog2 |rne ((n:ℚ) * r) / r|) :
    rhe (rne (rne ((n:ℚ) * r) / r)) = n :=
  -- `h2` follows from `h1`
  have _ := h2
  scale_roundtrip' n r hr hn fun hz =>
    pow2_le_of_ilog2 (h1 hz) (mul_ne_zero (Int.cast_ne_zero.mpr hz) hr.ne')

/-! ### the same fact in the shape the library uses it -/

theorem mulLit_float (n : ℤ) (res : Lit) (hf : res.isFloat = true) :
    mulLit n res = .flt (rne (rne (n:ℚ) * res.val)) := by
  unfold mulLit
  rw [if_pos hf]

theorem litNum_float (res : Lit) (hf : res.isFloat = true) : litNum res = .flt res.val := by
  unfold litNum
  rw [if_pos hf]

theorem pyDiv_flt (x y : ℚ) : pyDiv (.flt x) (.flt y) = rne (rne x / rne y) := rfl

theorem pyDiv_mulLit (n : ℤ) (res : Lit) (hf : res.isFloat = true) (hn : |(n:ℚ)| ≤ 2^48) :
    pyDiv (mulLit n res) (.flt res.val) = rne (rne ((n:ℚ) * res.val) / res.val) := by
  have hn53 : |n| ≤ 2 ^ 53 := by
    have : |(n:ℚ)| ≤ 2 ^ 53 := hn.trans (by norm_num)
    exact_mod_cast this
  rw [mulLit_float n res hf, pyDiv_flt, rne_idem, Lit.val_idem res hf, rne_int_exact n hn53]

theorem Lit.val_pos_of_normal (res : Lit) (hf : res.isFloat = true)
    (hres : pow2 (-1022) ≤ res.exact) : pow2 (-1022) ≤ res.val := by
  unfold Lit.val
  rw [if_pos hf, ← rne_pow2 _ (by norm_num)]
  exact rne_mono hres

theorem scale_roundtrip_lit_of_normal (n : ℤ) (res : Lit) (hf : res.isFloat = true)
    (hres : pow2 (-1022) ≤ res.exact) (hn : |(n:ℚ)| ≤ 2^48) :
    rhe (pyDiv (mulLit n res) (.flt res.val)) = n := by
  have hv := Lit.val_pos_of_normal res hf hres
  have hpos := (pow2_pos _).trans_le hv
  rw [pyDiv_mulLit n res hf hn]
  exact scale_roundtrip' n res.val hpos hn fun hz => hv.trans (le_abs_int_mul hz hpos.le)

theorem scale_roundtrip_lit (n : ℤ) (res : Lit) (hf : res.isFloat = true) (hr : 0 < res.exact)
    (hres : -1022 ≤ ilog2 res.exact) (hn : |(n:ℚ)| ≤ 2^48)
    (h1 : n ≠ 0 → -1022 ≤ ilog2 |(n:ℚ) * res.val|)
    (h2 : n ≠ 0 → -1022 ≤ ilog2 |rne ((n:ℚ) * res.val) / res.val|) :
    rhe (pyDiv (mulLit n res) (.flt res.val)) = n :=
  -- a normal `res` makes `h1`, `h2` true
  have _ := h1
  have _ := h2
  scale_roundtrip_lit_of_normal n res hf ((pow2_le_pow2 hres).trans (ilog2_spec _ hr).1) hn

theorem abs_cast_le_two_pow (n : ℤ) (k : ℕ) (h : |n| ≤ 2 ^ k) : |(n:ℚ)| ≤ 2 ^ k := by
  exact_mod_cast h

/-! ### binary32: `rne32 = rneP 24 (-126)` -/

theorem rne32_zero : rne32 0 = 0 := rneP_zero 24 (-126)

theorem rne32_neg (q : ℚ) : rne32 (-q) = -rne32 q := rneP_neg 24 (-126) q

theorem rne32_err (q : ℚ) (hn : -126 ≤ ilog2 |q|) (hq : q ≠ 0) :
    |rne32 q - q| ≤ pow2 (-24) * |q| :=
  rneP_err_rel 24 (-126) q (pow2_le_of_ilog2 hn hq)

theorem rne32_mono {a b : ℚ} (h : a ≤ b) : rne32 a ≤ rne32 b :=
  rneP_mono 24 (by norm_num) (-126) h

theorem rne32_idem (q : ℚ) : rne32 (rne32 q) = rne32 q := rneP_idem 24 (by norm_num) (-126) q

end N2k

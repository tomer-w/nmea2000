/-
`Dec.step` as a pipeline, proved once:

  pre-filter (`preOf`)  →  reassembly or direct (`route`)  →  generated decoder and address claim
  (`decodeId`)  →  filters on the decoded message, units, hash key (`emit`)  →  dump (`logged`).

The configuration enters only at the two ends (`preOf`, `emit`, `logged`); the reassembly table is
touched only by `route`, the source map only by `store`, the dump only by `logged`, and nothing
reads the dump.  What lies between the ends is one value, `decoded`: the message that reaches `emit`, or how the step
ends without one.  `step_eq` / `callDecode_eq` are the only places where `step` / `callDecode` are unfolded.
-/
import N2k.Model.Json
import N2k.Lemmas.Fast04
namespace N2k.Dec

/-! ### histories: `run` is `step` along the list, so what one step preserves or yields holds along a history -/

theorem run_cons (G : GenLayer) (cfg : Config) (st : State) (i : Input) (is : List Input) :
    run G cfg st (i :: is) =
      ((run G cfg (step G cfg st i).1 is).1, (step G cfg st i).2 :: (run G cfg (step G cfg st i).1 is).2) := rfl

theorem run_out_at (G : GenLayer) (cfg : Config) {i : Input} {o : Out} :
    ∀ (h : List Input) (st : State) (k : Nat), h[k]? = some i → (run G cfg st h).2[k]? = some o →
      ∃ st', o = (step G cfg st' i).2
  | [], _, _, hi, _ => by simp at hi
  | j :: js, st, 0, hi, ho => by
    simp only [run_cons, List.getElem?_cons_zero, Option.some.injEq] at hi ho
    exact ⟨st, hi ▸ ho.symm⟩
  | j :: js, st, k + 1, hi, ho => by
    simp only [run_cons, List.getElem?_cons_succ] at hi ho
    exact run_out_at G cfg js _ k hi ho

theorem run_rel {α : Type} {G G' : GenLayer} {cfg cfg' : Config} {R : State → State → Prop} {f g : Out → α}
    (hstep : ∀ s s' i, R s s' → R (step G cfg s i).1 (step G' cfg' s' i).1 ∧
      f (step G cfg s i).2 = g (step G' cfg' s' i).2) (is : List Input) :
    ∀ s s', R s s' → R (run G cfg s is).1 (run G' cfg' s' is).1 ∧
      (run G cfg s is).2.map f = (run G' cfg' s' is).2.map g := by
  induction is with
  | nil => exact fun _ _ h => ⟨h, rfl⟩
  | cons i is ih =>
    intro s s' h
    obtain ⟨h1, h2⟩ := hstep s s' i h
    obtain ⟨h3, h4⟩ := ih _ _ h1
    exact ⟨h3, by rw [run_cons, run_cons, List.map_cons, List.map_cons, h2, h4]⟩

/-! ### the part of Dec10's vocabulary that the pipeline is stated in: the configuration `mkConfig` builds, the
numeric pre-filter, the filter tests on a decoded message, the message built -/

namespace L10

def fltOf (u : UserConfig) : Bool :=
  (nums u.excludePgns).contains isoClaimPgn || (ids u.excludePgns).contains isoClaimId ||
    ((!(nums u.includePgns).isEmpty || !(ids u.includePgns).isEmpty) &&
      !(nums u.includePgns).contains isoClaimPgn && !(ids u.includePgns).contains isoClaimId)

/-- the configuration `mkConfig u` builds when it does not reject -/
def cfgOf (u : UserConfig) : Config :=
  { excludeNums := if fltOf u then (nums u.excludePgns).filter (· ≠ isoClaimPgn) else nums u.excludePgns
    excludeIds := if fltOf u then (ids u.excludePgns).filter (· ≠ isoClaimId) else ids u.excludePgns
    includeNums := nums u.includePgns, includeIds := ids u.includePgns
    excludeManu := u.excludeManu.map lower, includeManu := u.includeManu.map lower
    units := u.units.map (fun p => (p.1, lower p.2))
    dumpOn := u.dumpOn, dumpNums := nums u.dumpPgns, dumpIds := ids u.dumpPgns
    buildMap := u.buildMap, isoClaimFilter := fltOf u }

theorem mkConfig_some {u : UserConfig} {cfg : Config} (h : mkConfig u = some cfg) : cfg = cfgOf u := by
  unfold mkConfig at h
  split at h
  · cases h
  · exact (Option.some.inj h).symm

/-- the PGN is dropped by the numeric pre-filters of `step` -/
def pf (cfg : Config) (pgn : Nat) : Bool :=
  decide (pgn ≠ isoClaimPgn) && (cfg.excludeNums.contains pgn ||
    (!cfg.includeNums.isEmpty && cfg.includeIds.isEmpty && !cfg.includeNums.contains pgn))

/-- the filter tests of `callDecode` on a decoded message -/
def blocked (cfg : Config) (i : Input) (m : Msg) : Bool :=
  (decide (m.pgn = isoClaimPgn) && cfg.isoClaimFilter) || cfg.excludeIds.contains (lower m.id) ||
  ((!cfg.includeNums.isEmpty || !cfg.includeIds.isEmpty) && !cfg.includeNums.contains i.pgn &&
    !cfg.includeIds.contains (lower m.id))

/-- the message `callDecode` builds once the filters let it through -/
def outMsg (cfg : Config) (i : Input) (m m' : Msg) (iso1 : Option IsoName) : OutMsg :=
  { msg := m', src := i.src, dst := i.dst, prio := i.prio, iso := iso1,
    hashKey := if cfg.buildMap then some (hashKey m) else none }

end L10
open L10 (blocked outMsg)

/-! ### stage `preOf`: the pre-filter reads the configuration and the identity the source map holds for the source -/

/-- the `pre` computation of `step`, named -/
def preOf (cfg : Config) (st : State) (i : Input) : Option (Option IsoName) :=
  if i.pgn ≠ isoClaimPgn then
    if cfg.excludeNums.contains i.pgn then none
    else if !cfg.includeNums.isEmpty && cfg.includeIds.isEmpty && !cfg.includeNums.contains i.pgn then none
    else
      match lookupSrc st.sources i.src with
      | none => if cfg.buildMap && i.inWindow then none else some none
      | some iso => if manuPasses cfg iso then some (some iso) else none
  else some none

theorem preOf_eq (cfg : Config) (st : State) (i : Input) :
    preOf cfg st i = if L10.pf cfg i.pgn then none else
      if i.pgn = isoClaimPgn then some none else
        match lookupSrc st.sources i.src with
        | none => if cfg.buildMap && i.inWindow then none else some none
        | some iso => if manuPasses cfg iso then some (some iso) else none := by
  unfold preOf L10.pf
  by_cases hc : i.pgn = isoClaimPgn
  · rw [if_neg (not_not_intro hc), decide_eq_false (not_not_intro hc), if_pos hc]
    rfl
  · rw [if_pos hc, decide_eq_true hc, Bool.true_and, if_neg hc]
    cases cfg.excludeNums.contains i.pgn
    · cases !cfg.includeNums.isEmpty && cfg.includeIds.isEmpty && !cfg.includeNums.contains i.pgn <;> rfl
    · rfl

theorem L10.preOf_pf {cfg : Config} {st : State} {i : Input} (h : L10.pf cfg i.pgn = true) :
    preOf cfg st i = none := by
  rw [preOf_eq, if_pos h]

theorem preOf_congr (cfg : Config) {s1 s2 : State} {i : Input}
    (h : lookupSrc s1.sources i.src = lookupSrc s2.sources i.src) : preOf cfg s1 i = preOf cfg s2 i := by
  unfold preOf
  rw [h]

theorem preOf_claim (cfg : Config) (st : State) {i : Input} (h : i.pgn = isoClaimPgn) :
    preOf cfg st i = some none := by
  rw [preOf, if_neg (not_not_intro h)]

theorem preOf_nonclaim {cfg : Config} {st : State} {i : Input} {iso : Option IsoName}
    (hne : i.pgn ≠ isoClaimPgn) (h : preOf cfg st i = some iso) :
    iso = lookupSrc st.sources i.src ∧ ∀ n, iso = some n → manuPasses cfg n = true := by
  rw [preOf_eq, if_neg hne] at h
  split at h
  · cases h
  split at h
  next hl =>
    split at h <;> cases h
    exact ⟨hl.symm, fun n hn => nomatch hn⟩
  next n hl =>
    split at h <;> cases h
    exact ⟨hl.symm, fun n' hn => Option.some.inj hn ▸ ‹_›⟩

/-! ### stage `route`: reassembly or direct; only the input's own stream's record is read or changed -/

/-- how `_decode` ends without a message: it raises, or returns `None` -/
def halt (raised : Bool) : Out := if raised then .raised else .none

def kindOf (G : GenLayer) (i : Input) : FastKind := if i.combined then .single else G.isFast i.pgn

def fromFast : Fast.Out → Except Bool (List Nat)
  | .complete p => .ok p
  | .error => .error true
  | _ => .error false

/-- the table after the input and the payload handed to `_call_decode_function`, if any -/
def route (G : GenLayer) (t : Fast.Table) (i : Input) : Fast.Table × Except Bool (List Nat) :=
  match kindOf G i with
  | .raises => (t, .error true)
  | .unknown => (t, .error false)
  | .single => (t, .ok i.data)
  | .fast => ((Fast.stepK t (i.pgn, i.src, i.dst) i.data).1, fromFast (Fast.stepK t (i.pgn, i.src, i.dst) i.data).2)

theorem route_single {G : GenLayer} {i : Input} (h : i.combined = true ∨ G.isFast i.pgn = .single)
    (t : Fast.Table) : route G t i = (t, .ok i.data) := by
  have : kindOf G i = .single := by
    unfold kindOf
    split
    · rfl
    · exact h.resolve_left ‹_›
  rw [route, this]

theorem route_nonfast {G : GenLayer} {i : Input} (h : i.combined = true ∨ G.isFast i.pgn ≠ .fast) :
    (∀ t, route G t i = (t, .ok i.data)) ∨ ∃ b, ∀ t, route G t i = (t, .error b) := by
  unfold route kindOf
  by_cases hc : i.combined = true
  · rw [if_pos hc]
    exact Or.inl fun _ => rfl
  · rw [if_neg hc]
    cases hk : G.isFast i.pgn with
    | fast => exact absurd hk (h.resolve_left hc)
    | single => exact Or.inl fun _ => rfl
    | _ => exact Or.inr ⟨_, fun _ => rfl⟩

theorem route_fast {G : GenLayer} {i : Input} (hc : i.combined = false) (hf : G.isFast i.pgn = .fast)
    (t : Fast.Table) :
    route G t i = ((Fast.stepK t (i.pgn, i.src, i.dst) i.data).1,
      fromFast (Fast.step (Fast.lookup t (i.pgn, i.src, i.dst)) i.data).2) := by
  have : kindOf G i = .fast := by
    rw [kindOf, hc]
    exact hf
  rw [route, this]
  rfl

theorem lookup_route (G : GenLayer) (t : Fast.Table) (i : Input) {k : Fast.Key} (hk : k ≠ (i.pgn, i.src, i.dst)) :
    Fast.lookup (route G t i).1 k = Fast.lookup t k := by
  unfold route
  split
  · rfl
  · rfl
  · rfl
  · exact (Fast.lookup_stepK ..).trans (if_neg hk)

theorem route_congr (G : GenLayer) {t t' : Fast.Table} (i : Input)
    (h : Fast.lookup t (i.pgn, i.src, i.dst) = Fast.lookup t' (i.pgn, i.src, i.dst)) :
    (route G t i).2 = (route G t' i).2 ∧ ∀ k, Fast.lookup t k = Fast.lookup t' k →
      Fast.lookup (route G t i).1 k = Fast.lookup (route G t' i).1 k := by
  unfold route
  split
  · exact ⟨rfl, fun _ h => h⟩
  · exact ⟨rfl, fun _ h => h⟩
  · exact ⟨rfl, fun _ h => h⟩
  · refine ⟨by rw [Fast.stepK_out, Fast.stepK_out, h], fun k hk => ?_⟩
    rw [Fast.lookup_stepK, Fast.lookup_stepK, h, hk]

/-! ### the address claim as a function of the identity the source map holds (`claimId`) plus `store` -/

/-- the `claim` computation of `callDecode`, named -/
def claimStep (cfg : Config) (st : State) (i : Input) (m : Msg) (dataInt : Nat) (iso : Option IsoName) :
    Option (State × Option IsoName × Bool) :=
  if m.pgn = isoClaimPgn then
    match lookupSrc st.sources i.src with
    | some old =>
      if old.name = dataInt then some (st, some old, cfg.isoClaimFilter)
      else (mkIsoName m dataInt).map (fun n => ({ st with sources := setSrc st.sources i.src n }, some n, cfg.isoClaimFilter))
    | none => (mkIsoName m dataInt).map (fun n => ({ st with sources := setSrc st.sources i.src n }, some n, cfg.isoClaimFilter))
  else some (st, iso, false)

/-- the identity a decoded message gets and the entry its claim stores (`none`: nothing to store), given what the source
map holds for the source: the rest of the state does not enter -/
def claimId (l : Option IsoName) (m : Msg) (d : Nat) (iso : Option IsoName) :
    Option (Option IsoName × Option IsoName) :=
  if m.pgn = isoClaimPgn then
    match l with
    | some old =>
      if old.name = d then some (some old, none)
      else (mkIsoName m d).map (fun n => (some n, some n))
    | none => (mkIsoName m d).map (fun n => (some n, some n))
  else some (iso, none)

def store (s : List (Nat × IsoName)) (a : Nat) : Option IsoName → List (Nat × IsoName)
  | some n => setSrc s a n
  | none => s

theorem claimStep_eq (cfg : Config) (st : State) (i : Input) (m : Msg) (d : Nat) (iso : Option IsoName) :
    claimStep cfg st i m d iso = (claimId (lookupSrc st.sources i.src) m d iso).map (fun r =>
      ({ st with sources := store st.sources i.src r.2 }, r.1, decide (m.pgn = isoClaimPgn) && cfg.isoClaimFilter)) := by
  unfold claimStep claimId
  by_cases hm : m.pgn = isoClaimPgn
  · rw [if_pos hm, if_pos hm, decide_eq_true hm, Bool.true_and]
    cases lookupSrc st.sources i.src with
    | none => cases mkIsoName m d <;> rfl
    | some old =>
      dsimp only
      split
      · rfl
      · cases mkIsoName m d <;> rfl
  · rw [if_neg hm, if_neg hm, decide_eq_false hm]
    rfl

theorem claimId_nonclaim {m : Msg} (h : m.pgn ≠ isoClaimPgn) (l : Option IsoName) (d : Nat)
    (iso : Option IsoName) : claimId l m d iso = some (iso, none) := if_neg h

/-! ### stage `emit` (filters on the decoded message, units, hash key) and `logged`; units keep a field's frame -/

/-- what `_call_decode_function` returns for the decoded message `m` of a source with identity `iso1` -/
def emit (cfg : Config) (i : Input) (m : Msg) (iso1 : Option IsoName) : Out :=
  if blocked cfg i m then .none
  else
    match applyUnits cfg.units m with
    | none => .raised
    | some m' => .msg (outMsg cfg i m m' iso1)

/-- what a step writes to the dump file -/
def logged (cfg : Config) : Out → List OutMsg
  | .msg o => if cfg.dumpOn && Json.dumpMatches cfg o then [o] else []
  | _ => []

/-- everything of a field except value and unit -/
def fieldFrame (f : Field) : String × String × Option String × Option String × String × Bool × PyVal :=
  (f.fmeta.id, f.fmeta.name, f.fmeta.desc, f.fmeta.pq, f.fmeta.ftype, f.fmeta.pk, f.raw)

theorem convertField_frame (units : List (String × String)) (f f' : Field)
    (h : convertField units f = some f') : fieldFrame f' = fieldFrame f := by
  unfold convertField at h
  split at h
  · cases h
    rfl
  split at h
  · cases h
    rfl
  split at h
  · cases h
    rfl
  split at h
  · cases h
    rfl
  split at h
  · cases h
    rfl
  · cases h

theorem mapM_frame {α β : Type} (c : α → Option α) (g : α → β) (hc : ∀ a a', c a = some a' → g a' = g a) :
    ∀ (l l' : List α), l.mapM c = some l' → l'.map g = l.map g := by
  intro l
  induction l with
  | nil =>
    intro l' h
    simp at h
    subst h
    rfl
  | cons x xs ih =>
    intro l' h
    simp only [List.mapM_cons, Option.bind_eq_bind, Option.pure_def, Option.bind_eq_some_iff] at h
    obtain ⟨y, hy, ys, hys, he⟩ := h
    simp only [Option.some.injEq] at he
    subst he
    simp [hc x y hy, ih ys hys]

theorem applyUnits_frame (units : List (String × String)) (m m' : Msg) (h : applyUnits units m = some m') :
    m'.pgn = m.pgn ∧ m'.id = m.id ∧ m'.desc = m.desc ∧ m'.ttlMs = m.ttlMs ∧
    m'.fields.map fieldFrame = m.fields.map fieldFrame := by
  unfold applyUnits at h
  split at h
  · cases h
    exact ⟨rfl, rfl, rfl, rfl, rfl⟩
  · simp only [Option.map_eq_some_iff] at h
    obtain ⟨fs, hfs, rfl⟩ := h
    exact ⟨rfl, rfl, rfl, rfl, mapM_frame _ _ (convertField_frame units) _ _ hfs⟩

theorem emit_msg {cfg : Config} {i : Input} {m : Msg} {iso1 : Option IsoName} {o : OutMsg}
    (h : emit cfg i m iso1 = .msg o) :
    blocked cfg i m = false ∧ ∃ m', applyUnits cfg.units m = some m' ∧ o = outMsg cfg i m m' iso1 := by
  unfold emit at h
  split at h
  · cases h
  · split at h
    · cases h
    · cases h
      exact ⟨Bool.eq_false_iff.2 ‹_›, _, ‹_›, rfl⟩

theorem halt_logged (cfg : Config) (st : State) (b : Bool) :
    (st, halt b) = (⟨st.table, st.sources, st.dump ++ logged cfg (halt b)⟩, halt b) := by
  cases b <;> exact congrArg (fun d => ((⟨_, _, d⟩ : State), _)) (List.append_nil _).symm

/-! ### `callDecode` is `decodeId`, then `emit` and `logged` -/

/-- decoded message, identity of the source, entry to store; neither the configuration nor the rest of the state enters -/
def decodeId (G : GenLayer) (l : Option IsoName) (i : Input) (p : List Nat) (iso : Option IsoName) :
    Except Bool (Msg × Option IsoName × Option IsoName) :=
  match G.decode i.pgn (leNat p) with
  | none => .error false
  | some .none => .error false
  | some .raised => .error true
  | some (.ok m) =>
    match claimId l m (leNat p % 18446744073709551616) iso with
    | none => .error true
    | some r => .ok (m, r)

theorem callDecode_eq (G : GenLayer) (cfg : Config) (st : State) (i : Input) (p : List Nat)
    (iso : Option IsoName) :
    callDecode G cfg st i p iso =
      match decodeId G (lookupSrc st.sources i.src) i p iso with
      | .error b => (st, halt b)
      | .ok (m, iso1, new) =>
        (⟨st.table, store st.sources i.src new, st.dump ++ logged cfg (emit cfg i m iso1)⟩, emit cfg i m iso1) := by
  unfold callDecode decodeId
  cases G.decode i.pgn (leNat p) with
  | none => rfl
  | some r =>
  cases r with
  | none => rfl
  | raised => rfl
  | ok m =>
    dsimp only
    split
    · next h =>
      have h' : claimStep cfg st i m (leNat p % 18446744073709551616) iso = none := h
      rw [claimStep_eq, Option.map_eq_none_iff] at h'
      rw [h']
      rfl
    · next st1 iso1 stop h =>
      have h' : claimStep cfg st i m (leNat p % 18446744073709551616) iso = some (st1, iso1, stop) := h
      rw [claimStep_eq, Option.map_eq_some_iff] at h'
      obtain ⟨r, hr, he⟩ := h'
      cases he
      rw [hr]
      dsimp only
      have h3 : ∀ {α : Type} (a b c : Bool) (x y : α),
          (if a then x else if b then x else if c then x else y) = if (a || b || c) then x else y := by
        intro α a b c x y
        cases a <;> cases b <;> cases c <;> rfl
      rw [h3]
      show (if blocked cfg i m = true then _ else _) = _
      unfold emit
      cases blocked cfg i m with
      | true => exact halt_logged cfg _ false
      | false =>
        cases hu : applyUnits cfg.units m with
        | none => exact halt_logged cfg _ true
        | some m' =>
          -- `callDecode` tests the dump filter on `m`, `logged` on the converted message: units keep PGN and id
          obtain ⟨h1, h2, _⟩ := applyUnits_frame _ _ _ hu
          simp only [logged, Json.dumpMatches, outMsg, h1, h2, Bool.false_eq_true, if_false]
          split <;> simp

/-! ### `step` is `core` plus the dump (`step_eq`); what `core` does to table, source map and result -/

/-- what reaches `emit`: the pre-filter lets the input through, `route` hands on a payload, and it decodes -/
def decoded (G : GenLayer) (l : Option IsoName) (i : Input) :
    Option (Option IsoName) → Except Bool (List Nat) → Except Bool (Msg × Option IsoName × Option IsoName)
  | none, _ => .error false
  | some _, .error b => .error b
  | some iso, .ok p => decodeId G l i p iso

theorem decoded_ok {G : GenLayer} {l : Option IsoName} {i : Input} {pre : Option (Option IsoName)}
    {r : Except Bool (List Nat)} {x : Msg × Option IsoName × Option IsoName} (h : decoded G l i pre r = .ok x) :
    ∃ iso p, pre = some iso ∧ r = .ok p ∧ G.decode i.pgn (leNat p) = some (.ok x.1) ∧
      claimId l x.1 (leNat p % 18446744073709551616) iso = some x.2 := by
  cases pre with
  | none => cases h
  | some iso =>
    cases r with
    | error b => cases h
    | ok p =>
      refine ⟨iso, p, rfl, rfl, ?_⟩
      rw [decoded, decodeId] at h
      split at h
      · cases h
      · cases h
      · cases h
      · split at h
        · cases h
        · cases h
          exact ⟨‹_›, ‹_›⟩

/-- table, source map and result of a step: everything but the dump, which it does not read -/
def core (G : GenLayer) (cfg : Config) (st : State) (i : Input) : Fast.Table × List (Nat × IsoName) × Out :=
  (match preOf cfg st i with
    | none => st.table
    | some _ => (route G st.table i).1,
   match decoded G (lookupSrc st.sources i.src) i (preOf cfg st i) (route G st.table i).2 with
    | .error _ => st.sources
    | .ok (_, _, new) => store st.sources i.src new,
   match decoded G (lookupSrc st.sources i.src) i (preOf cfg st i) (route G st.table i).2 with
    | .error b => halt b
    | .ok (m, iso1, _) => emit cfg i m iso1)

theorem step_eq (G : GenLayer) (cfg : Config) (st : State) (i : Input) :
    step G cfg st i =
      (⟨(core G cfg st i).1, (core G cfg st i).2.1, st.dump ++ logged cfg (core G cfg st i).2.2⟩,
        (core G cfg st i).2.2) := by
  show (match preOf cfg st i with | none => _ | some iso => _) = _
  unfold core route
  cases preOf cfg st i with
  | none => exact halt_logged cfg st false
  | some iso =>
    dsimp only
    show (match kindOf G i with | .raises => _ | .unknown => _ | .single => _ | .fast => _) = _
    cases kindOf G i with
    | raises => exact halt_logged cfg st true
    | unknown => exact halt_logged cfg st false
    | single =>
      dsimp only [decoded]
      rw [callDecode_eq]
      cases decodeId G (lookupSrc st.sources i.src) i i.data iso with
      | error b => exact halt_logged cfg st b
      | ok r => rfl
    | fast =>
      dsimp only
      generalize Fast.stepK st.table (i.pgn, i.src, i.dst) i.data = r
      obtain ⟨t, o⟩ := r
      cases o with
      | complete p =>
        dsimp only [fromFast, decoded]
        rw [callDecode_eq]
        cases decodeId G (lookupSrc st.sources i.src) i p iso with
        | error b => exact halt_logged cfg _ b
        | ok r => rfl
      | error => exact halt_logged cfg _ true
      | _ => exact halt_logged cfg _ false

theorem step_out (G : GenLayer) (cfg : Config) (st : State) (i : Input) :
    (step G cfg st i).2 = (core G cfg st i).2.2 := by rw [step_eq]

theorem step_table (G : GenLayer) (cfg : Config) (st : State) (i : Input) :
    (step G cfg st i).1.table = (core G cfg st i).1 := by rw [step_eq]

theorem step_sources (G : GenLayer) (cfg : Config) (st : State) (i : Input) :
    (step G cfg st i).1.sources = (core G cfg st i).2.1 := by rw [step_eq]

theorem step_dump (G : GenLayer) (cfg : Config) (st : State) (i : Input) :
    (step G cfg st i).1.dump = st.dump ++ logged cfg (step G cfg st i).2 := by rw [step_eq]

theorem step_halt {G : GenLayer} {cfg : Config} {st : State} {i : Input} {t : Fast.Table} {b : Bool}
    (h : core G cfg st i = (t, st.sources, halt b)) : step G cfg st i = ({ st with table := t }, halt b) := by
  rw [step_eq, h]
  exact (halt_logged cfg { st with table := t } b).symm

theorem step_filtered {G : GenLayer} {cfg : Config} {st : State} {i : Input} (h : preOf cfg st i = none) :
    step G cfg st i = (st, .none) :=
  step_halt (b := false) (by rw [core, h]; rfl)

theorem step_route_error {G : GenLayer} {cfg : Config} {st : State} {i : Input} {iso : Option IsoName}
    {t : Fast.Table} {b : Bool} (hp : preOf cfg st i = some iso) (hr : route G st.table i = (t, .error b)) :
    step G cfg st i = ({ st with table := t }, halt b) :=
  step_halt (by rw [core, hp, hr]; rfl)

theorem core_cases (G : GenLayer) (cfg : Config) (st : State) (i : Input) :
    ((core G cfg st i).2.1 = st.sources ∧ ∃ b, (core G cfg st i).2.2 = halt b) ∨
    ∃ iso p m iso1 new, preOf cfg st i = some iso ∧ (route G st.table i).2 = .ok p ∧
      G.decode i.pgn (leNat p) = some (.ok m) ∧
      claimId (lookupSrc st.sources i.src) m (leNat p % 18446744073709551616) iso = some (iso1, new) ∧
      (core G cfg st i).2 = (store st.sources i.src new, emit cfg i m iso1) := by
  unfold core
  cases hd : decoded G (lookupSrc st.sources i.src) i (preOf cfg st i) (route G st.table i).2 with
  | error b => exact Or.inl ⟨rfl, b, rfl⟩
  | ok x =>
    obtain ⟨iso, p, hp, hr, hd, hc⟩ := decoded_ok hd
    exact Or.inr ⟨iso, p, _, _, _, hp, hr, hd, hc, rfl⟩

theorem core_table (G : GenLayer) (cfg : Config) (st : State) (i : Input) :
    (core G cfg st i).1 = st.table ∨ (core G cfg st i).1 = (route G st.table i).1 := by
  unfold core
  cases preOf cfg st i with
  | none => exact Or.inl rfl
  | some _ => exact Or.inr rfl

theorem core_sources_nonclaim {G : GenLayer} {st : State} {i : Input} (cfg : Config)
    (h : ∀ p m, (route G st.table i).2 = .ok p → G.decode i.pgn (leNat p) = some (.ok m) → m.pgn ≠ isoClaimPgn) :
    (core G cfg st i).2.1 = st.sources := by
  rcases core_cases G cfg st i with ⟨h', _⟩ | ⟨iso, p, m, iso1, new, _, hr, hd, hcl, hc⟩
  · exact h'
  · rw [claimId_nonclaim (h p m hr hd)] at hcl
    cases hcl
    rw [hc]
    rfl

theorem step_table_other (G : GenLayer) (cfg : Config) (st : State) (i : Input) (k : Fast.Key)
    (hne : k ≠ (i.pgn, i.src, i.dst)) :
    Fast.lookup (step G cfg st i).1.table k = Fast.lookup st.table k := by
  rw [step_table]
  rcases core_table G cfg st i with h | h
  · rw [h]
  · rw [h, lookup_route G _ i hne]

theorem step_combined_irrelevant (G : GenLayer) (cfg : Config) (st : State) (i : Input)
    (h : G.isFast i.pgn = .single) :
    step G cfg st { i with combined := true } = step G cfg st { i with combined := false } := by
  have hr : ∀ b, route G st.table { i with combined := b } = (st.table, .ok i.data) :=
    fun b => route_single (i := { i with combined := b }) (Or.inr h) _
  rw [step_eq, step_eq, core, core, hr, hr]
  rfl

end N2k.Dec

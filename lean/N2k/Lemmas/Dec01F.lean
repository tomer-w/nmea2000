/-
`decode_number` with a decimal (binary64) resolution never rejects a value whose exact decimal product lies inside
the exact database range (`tol_covers`, used by Props/C01Float.lean).

The argument: `v = rne (rne z * rne r)` is within ~3 ulp of the exact product `x = z·r`, `rne x` within 1 ulp,
and the tolerance `rne (rne |v| · 1e-15)` is ~9 ulp of `|x|`; the rest is monotonicity and idempotence of `rne`.
Overflow is not modelled (see `Model/Num.lean`), so only lower bounds (normal range) are needed.

The one decimal resolution with an Offset (127513 Peukert Exponent) is outside that argument: `peukert` analyses its
two further roundings with the rules of `Lemmas/Approx.lean`.
-/
import N2k.Lemmas.Approx
import N2k.Lemmas.Number02
namespace N2k.Dec01F
open N2k

theorem absR_eq (q : ℚ) : absR q = |q| := by
  unfold absR
  split_ifs with h
  · rw [abs_of_neg h]
  · rw [abs_of_nonneg (not_lt.mp h)]

theorem le_maxR_right (a b : ℚ) : b ≤ maxR a b := by
  unfold maxR
  split_ifs with h
  · exact le_refl _
  · exact not_lt.mp h

theorem rne_val (l : Lit) : rne l.val = rne l.exact := by
  unfold Lit.val
  split_ifs
  · exact rne_idem _
  · rfl

/-- `1e-15` as a double is at least 8.9 units roundoff -/
theorem relTol_ge : 89 / 10 * (1 / 2 ^ 53) ≤ relTol := by
  have e : pow2 (-50) ≤ |(1:ℚ) / 1000000000000000| := by
    rw [pow2_eq, abs_of_pos] <;> norm_num
  have := (abs_le.mp (rne_rel (by norm_num) e)).1
  unfold relTol
  norm_num at this ⊢
  linarith

/-- With `u = 2^-53`: `v = rne (rne z · rne r)` is within `4u|z·r|` of the exact product and `rne (z·r)` within
`u|z·r|`, while the tolerance `rne (rne |v| · 1e-15)` is at least `(1-u)²(1-4u)·8.9u·|z·r|`.  Every intermediate
is at least `2^-400` in magnitude, the product with `1e-15` at least `2^-460` (rounding does not cross a power of
two), hence normal. -/
theorem tol_covers (z : ℤ) (r : ℚ) (hr : pow2 (-400) ≤ r) :
    |rne ((z:ℚ) * r) - rne (rne (z:ℚ) * rne r)|
      ≤ rne (rne (absR (rne (rne (z:ℚ) * rne r))) * relTol) := by
  by_cases hz : z = 0
  · subst hz
    simp [rne_zero, absR_eq]
  have hP := pow2_pos (-400)
  have hrpos : 0 < r := hP.trans_le hr
  have hr' : pow2 (-400) ≤ |r| := by rwa [abs_of_pos hrpos]
  have hz1 : pow2 0 ≤ |(z:ℚ)| := by
    rw [pow2_eq, zpow_zero]
    exact_mod_cast Int.one_le_abs hz
  have hx : pow2 (-400) ≤ |(z:ℚ) * r| := hr.trans (le_abs_int_mul hz hrpos.le)
  have hZR : pow2 (-400) ≤ |rne (z:ℚ) * rne r| := by
    rw [abs_mul, ← zero_add (-400), pow2_add]
    exact mul_le_mul (pow2_le_abs_rne (by norm_num) hz1) (pow2_le_abs_rne (by norm_num) hr')
      hP.le (abs_nonneg _)
  have eZR := rel_trans (by norm_num) (rne_rel (by norm_num) hZR)
    (rel_mul (rne_rel (by norm_num) hz1) (rne_rel (by norm_num) hr'))
  have eX := rne_rel (by norm_num) hx
  set v := rne (rne (z:ℚ) * rne r)
  set A := |(z:ℚ) * r|
  have hv : pow2 (-400) ≤ |v| := pow2_le_abs_rne (by norm_num) hZR
  have ha : pow2 (-400) ≤ rne |v| := by
    rw [← rne_pow2 _ (by norm_num)]
    exact rne_mono hv
  have ea := rel_abs_ge (rne_rel (by norm_num) (hv.trans_eq (abs_abs v).symm))
  rw [abs_abs, abs_of_nonneg (hP.le.trans ha)] at ea
  have hrt := relTol_ge
  have hart : pow2 (-460) ≤ |rne |v| * relTol| := by
    rw [abs_of_nonneg (mul_nonneg (hP.le.trans ha) (le_trans (by norm_num) hrt)),
      show (-460:ℤ) = -400 + -60 by norm_num, pow2_add]
    exact mul_le_mul ha (le_trans (by rw [pow2_eq]; norm_num) hrt) (pow2_pos _).le (hP.le.trans ha)
  have et := rel_abs_ge (rne_rel (by norm_num) hart)
  rw [absR_eq]
  have hA0 := hP.le.trans hx
  have ha0 := hP.le.trans ha
  have hart0 := mul_nonneg ha0 (le_trans (by norm_num) hrt)
  rw [abs_of_nonneg hart0, abs_of_nonneg (rne_nonneg hart0)] at et
  have eZR' : |v - (z:ℚ) * r| ≤ 4 / 2 ^ 53 * A :=
    eZR.trans (mul_le_mul_of_nonneg_right (by norm_num) hA0)
  have h1 := (mul_le_mul_of_nonneg_left (rel_abs_ge eZR') (by norm_num)).trans ea
  have h2 := mul_le_mul h1 hrt (by norm_num) ha0
  have h3 := (mul_le_mul_of_nonneg_left h2 (by norm_num : (0:ℚ) ≤ 1 - 1 / 2 ^ 53)).trans et
  have h4 := abs_sub_le (rne ((z:ℚ) * r)) ((z:ℚ) * r) v
  rw [abs_sub_comm ((z:ℚ) * r) v] at h4
  -- `|X - v| ≤ (1 + 4)·u·A` against a tolerance of `(1-u)²(1-4u)·8.9·u·A`: 8.9 > 4 + 1 with room for the factors
  linarith only [h3, h4, eX, eZR', hA0]

theorem pow10_zero : pow10 0 = 1 := Dec01.pow10_zero

theorem pow2_le_exact (res : Lit) (hpos : 0 < res.m) (he : -100 ≤ res.e) : pow2 (-400) ≤ res.exact := by
  unfold Lit.exact
  have h1 : (1:ℚ) ≤ (res.m : ℚ) := by exact_mod_cast hpos
  have h2 : pow10 (-100) ≤ pow10 res.e := by
    simp only [pow10_eq]
    exact zpow_le_zpow_right₀ (by norm_num) he
  have h3 : pow2 (-400) ≤ pow10 (-100) := by
    have hp : (10:ℚ) ^ (100:ℕ) ≤ 2 ^ (400:ℕ) := by
      calc (10:ℚ) ^ (100:ℕ) ≤ (2 ^ 4) ^ (100:ℕ) := pow_le_pow_left₀ (by norm_num) (by norm_num) 100
        _ = 2 ^ (400:ℕ) := by rw [← pow_mul]
    rw [pow2_eq, pow10_eq, show (-400:ℤ) = -((400:ℕ):ℤ) by norm_num,
      show (-100:ℤ) = -((100:ℕ):ℤ) by norm_num, zpow_neg, zpow_neg, zpow_natCast, zpow_natCast]
    exact inv_anti₀ (by positivity) hp
  exact (h3.trans h2).trans (le_mul_of_one_le_left (pow10_pos res.e).le h1)

/-! ### 127513 Peukert Exponent, the one decimal resolution with an Offset

8 bits at 48, 0.002 steps, excess 1, range 1 .. 1.5.  The decoder computes `v = rne (rne (z·R) + 1)` with `R = rne 0.002`, the
encoder `round (rne (rne (v - 1) / R))`.  Five roundings of magnitudes ≤ 1.5 leave `v` within 4.5 units roundoff of
`z·0.002 + 1`; divided by `R ≈ 1/500` the error is below `10⁻³`, so rounding returns `z`; and the range test's tolerance is at
least half a step. -/

theorem le_maxR_left (a b : ℚ) : a ≤ maxR a b := by
  unfold maxR
  split_ifs with h
  · exact h.le
  · exact le_refl _

theorem peukert_arith (z : ℕ) (hz : z ≤ 250) :
    |rne (rne ((z:ℚ) * rne (2 / 1000)) + 1) - ((z:ℚ) * 2 / 1000 + 1)| ≤ 1 / 10 ^ 15 ∧
    rhe (rne (rne (rne (rne ((z:ℚ) * rne (2 / 1000)) + 1) - 1) / rne (2 / 1000))) = z := by
  have hZ : Approx (z:ℚ) z 0 250 := .exact (by rw [abs_of_nonneg (Nat.cast_nonneg z)]; exact_mod_cast hz)
  have hR : Approx (rne (2 / 1000)) (2 / 1000) (1 / 2 ^ 53 * |2 / 1000|) |2 / 1000| :=
    ⟨rne_rel (e := -10) (by norm_num) (by rw [pow2_eq, abs_of_pos] <;> norm_num), le_rfl⟩
  have h1 : Approx (1:ℚ) 1 0 1 := .exact (by norm_num)
  have hv := ((hZ.mul hR).rne.add h1).rne
  have hq := ((hv.sub h1).rne.mul (hR.inv (L := 1 / 1000) (by norm_num) (by norm_num))).rne
  constructor
  · rw [mul_div_assoc]
    exact hv.err.trans (by norm_num)
  · refine rhe_eq_of_close _ _ (lt_of_le_of_lt ?_ (by norm_num : (1:ℚ) / 1000 < 1 / 2))
    have := hq.err
    rw [show ((z:ℚ) * (2 / 1000) + 1 - 1) * (2 / 1000 : ℚ)⁻¹ = z by ring] at this
    exact this.trans (by norm_num)

theorem peukert (z : ℕ) (hz : z ≤ 250) :
    ∃ v, decodeNumber (z * 2 ^ 48) 48 8 false ⟨2, -3, true⟩ ⟨1, 0, false⟩ ⟨15, -1, true⟩ ⟨1, 0, false⟩ = .ok (some (.flt v)) ∧
      |v - ((z : Rat) * 2 / 1000 + 1)| ≤ 1 / 10 ^ 15 ∧
      encodeNumber (numVal (.flt v)) 8 false ⟨2, -3, true⟩ ⟨1, 0, false⟩ = .ok (z : Int) := by
  have hfi : fieldInt (z * 2 ^ 48) 48 8 false = (z : Int) := by
    rw [fieldInt, if_neg Bool.false_ne_true, Dec01.decode_int_bits, Nat.mul_div_cancel _ (by positivity),
      Nat.mod_eq_of_lt (by omega)]
  have hR : (⟨2, -3, true⟩ : Lit).val = rne (2 / 1000) := by
    rw [Lit.val, if_pos rfl, Lit.exact, pow10_eq]
    norm_num
  have hO : (⟨1, 0, false⟩ : Lit).val = 1 := Dec01.ofInt_val 1
  have hM : (⟨15, -1, true⟩ : Lit).val = rne (15 / 10) := by
    rw [Lit.val, if_pos rfl, Lit.exact, pow10_eq]
    norm_num
  have hna : naCode 8 false = some 255 := by decide
  have r1 : rne 1 = 1 := by simpa using rne_int_exact 1 (by norm_num)
  have rz : rne ((z:ℤ):ℚ) = z := by simpa using rne_int_exact z (by norm_num; omega)
  have hRlo : pow2 (-9) ≤ rne (2 / 1000) := by
    rw [← rne_pow2 _ (by norm_num)]
    exact rne_mono (by rw [pow2_eq]; norm_num)
  obtain ⟨hacc, hrt⟩ := peukert_arith z hz
  refine ⟨rne (rne ((z:ℚ) * rne (2 / 1000)) + 1), ?_, hacc, ?_⟩
  · rw [Dec01.decodeNumber_eq, Dec01.effSigned_unsigned, hfi, hna, if_neg (by intro h; have := Option.some.inj h; omega),
      mulLit_float _ _ rfl, addLit, hR, hO, r1, rz]
    have hvv := rne_idem (rne ((z:ℚ) * rne (2 / 1000)) + 1)
    generalize rne (rne ((z:ℚ) * rne (2 / 1000)) + 1) = v at hacc hvv
    simp only [Dec01.checkRange, Num.toRat, hR, hO, hM, true_or, if_true, r1, rne_idem]
    -- the tolerance is at least half the resolution, far more than the `1e-15` of `hacc`
    have ht : pow2 (-10) ≤ maxR (rne (absR (rne (2 / 1000)) / 2)) (rne (rne (absR v) * relTol)) := by
      refine le_trans ?_ (le_maxR_left _ _)
      rw [← rne_pow2 _ (by norm_num), absR_eq, abs_of_pos ((pow2_pos _).trans_le hRlo)]
      refine rne_mono ?_
      rw [show (-10:ℤ) = -9 + -1 by norm_num, pow2_add, pow2_eq (-1), zpow_neg_one, ← div_eq_mul_inv]
      exact div_le_div_of_nonneg_right hRlo (by norm_num)
    have h15 : rne (15 / 10) = 15 / 10 := by
      have := rne_mul_pow2 3 (-1) (by norm_num) (by norm_num)
      rw [pow2_eq] at this
      norm_num at this ⊢
      exact this
    have hz0 : (0:ℚ) ≤ z := Nat.cast_nonneg z
    have hz1 : (z:ℚ) ≤ 250 := by exact_mod_cast hz
    have hc := abs_le.mp hacc
    generalize maxR (rne (absR (rne (2 / 1000)) / 2)) (rne (rne (absR v) * relTol)) = tol at ht ⊢
    have ht' : (1:ℚ) / 10 ^ 15 ≤ tol := le_trans (by rw [pow2_eq]; norm_num) ht
    rw [h15, if_neg (not_lt.mpr ?_), if_neg (not_lt.mpr ?_)]
    · exact hvv.symm.trans_le (rne_mono (by linarith only [hc.2, ht', hz1]))
    · exact (rne_mono (by linarith only [hc.1, ht', hz0])).trans_eq hvv
  · rw [Number.encodeNumber_num _ _ _ _ _ (by rw [hR]; exact (lt_of_lt_of_le (pow2_pos _) hRlo).ne'),
      quotient, subLit, litNum_float _ rfl, pyDiv_flt, hO, r1, hR, rne_idem, rne_idem, hrt, Dec01.effSigned_unsigned]
    have hlo : numLo 8 false = 0 := rfl
    have hhi : numHi 8 false = 254 := by decide
    rw [hlo, hhi, if_neg (by omega), if_neg (fun h => Bool.false_ne_true h.1)]
end N2k.Dec01F

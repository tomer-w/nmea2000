/- The client LTS: how `step` and `runTrace` are taken apart, and which fields each event can change. -/
import N2k.Model.Client
namespace N2k.Client

theorem guard_eq_some {b : Bool} {u t : CS} : guard b u = some t ↔ b = true ∧ u = t := by
  cases b <;> simp [guard]

theorem guard_eq_none {b : Bool} {u : CS} : guard b u = none ↔ b = false := by
  cases b <;> simp [guard]

theorem step_eq_some {s s' : CS} {e : Ev} :
    step s e = some s' ↔ ∃ t, stepCore s e = some t ∧ { t with prev := some e } = s' :=
  Option.map_eq_some_iff

/-- Most events are a guarded record update; for such an event `h : step s e = some s'` unifies with the hypothesis
(the arm of `stepCore` is found by reduction, nothing is unfolded in the goal). -/
theorem step_guard {b : Bool} {u s' : CS} {p : Option Ev}
    (h : (guard b u).map (fun t => { t with prev := p }) = some s') : b = true ∧ { u with prev := p } = s' := by
  cases b with
  | false => cases h
  | true => exact ⟨rfl, Option.some.inj h⟩

theorem step_of_guard {b : Bool} {u : CS} {p : Option Ev} (hb : b = true) :
    (guard b u).map (fun t => { t with prev := p }) = some { u with prev := p } := by
  subst hb
  rfl

theorem step_guard_none {b : Bool} {u : CS} {p : Option Ev} (hb : b = false) :
    (guard b u).map (fun t => { t with prev := p }) = none := by
  subst hb
  rfl

theorem step_ite {c : Prop} [Decidable c] {b b' : Bool} {u u' s' : CS} {p : Option Ev}
    (h : (if c then guard b u else guard b' u').map (fun t => { t with prev := p }) = some s') :
    c ∧ b = true ∧ { u with prev := p } = s' ∨ ¬c ∧ b' = true ∧ { u' with prev := p } = s' := by
  split at h
  · exact .inl ⟨‹c›, step_guard h⟩
  · exact .inr ⟨‹¬c›, step_guard h⟩

theorem runTrace_cons {s s' : CS} {e : Ev} {es : List Ev} :
    runTrace s (e :: es) = some s' ↔ ∃ t, step s e = some t ∧ runTrace t es = some s' := by
  simp [runTrace, Option.bind_eq_some_iff]

theorem runTrace_append (s : CS) (a b : List Ev) :
    runTrace s (a ++ b) = (runTrace s a).bind (fun t => runTrace t b) := by
  induction a generalizing s with
  | nil => rfl
  | cons e es ih => cases h : step s e <;> simp [runTrace, h, ih]

/-- Running a trace forwards: the first event is a guarded update whose guard holds.  `hs` is `rfl`. -/
theorem run_guard {s s' u : CS} {e : Ev} {es : List Ev} {b : Bool}
    (hs : step s e = (guard b u).map (fun t => { t with prev := some e })) (hb : b = true)
    (h : runTrace { u with prev := some e } es = some s') : runTrace s (e :: es) = some s' := by
  subst hb
  rw [runTrace, hs]
  exact h

theorem runTrace_induct {R : CS → List Ev → CS → Prop} (nil : ∀ s, R s [] s)
    (cons : ∀ {s t s' e es}, step s e = some t → R t es s' → R s (e :: es) s')
    {s s' : CS} {evs : List Ev} (h : runTrace s evs = some s') : R s evs s' := by
  induction evs generalizing s with
  | nil =>
    cases h
    exact nil _
  | cons e es ih =>
    obtain ⟨t, h1, h2⟩ := runTrace_cons.1 h
    exact cons h1 (ih h2)

theorem runTrace_preserves {P : CS → Prop} (hP : ∀ {s e s'}, step s e = some s' → P s → P s')
    {s s' : CS} {evs : List Ev} (h : runTrace s evs = some s') : P s → P s' :=
  runTrace_induct (R := fun s _ s' => P s → P s') (fun _ => id) (fun h1 ih hs => ih (hP h1 hs)) h

theorem runTrace_preserves_prefix {P : List Ev → CS → Prop}
    (hP : ∀ {pre s e s'}, step s e = some s' → P pre s → P (pre ++ [e]) s')
    {s s' : CS} {pre evs : List Ev} (h : runTrace s evs = some s') : P pre s → P (pre ++ evs) s' :=
  runTrace_induct (R := fun s evs s' => ∀ pre, P pre s → P (pre ++ evs) s')
    (fun _ _ hs => by rwa [List.append_nil])
    (fun h1 ih pre hs => by rw [List.append_cons]; exact ih _ (hP h1 hs)) h pre

/-! ### which fields an event can change

The fields that the properties read, in groups, each with the events that assign to one of them. -/

def Ev.isStatus : Ev → Bool
  | .status _ => true
  | _ => false

def Ev.isRecvLife : Ev → Bool
  | .recvStart _ | .recvExit .. => true
  | _ => false

def Ev.isCbOrCloseReturn : Ev → Bool
  | .cb _ | .closeReturn => true
  | _ => false

def Ev.isReconn : Ev → Bool
  | .reconnStart | .reconnSleep _ | .reconnCall | .reconnEnd => true
  | _ => false

def Ev.isLock : Ev → Bool
  | .sendCall _ | .write .. | .writeFail .. | .drainFail _ | .sendReturn _ => true
  | _ => false

def Ev.isWrite : Ev → Bool
  | .write .. => true
  | _ => false

def Ev.isAttempt : Ev → Bool
  | .connReturn | .implStart | .implFail | .implOk _ | .connCancel | .cfgFail _ => true
  | _ => false

def Ev.isInnerClose : Ev → Bool
  | .closeCallInRecv => true
  | _ => false

def Ev.isShut : Ev → Bool
  | .writerClose _ => true
  | _ => false

def Ev.isFault : Ev → Bool
  | .writeFail .. | .drainFail _ | .abandon _ | .connGiveUp _ | .cfgFail _ | .envEof _ | .envReadErr _ => true
  | _ => false

structure Frame (s : CS) (e : Ev) (s' : CS) : Prop where
  status : e.isStatus = false → s'.st = s.st ∧ s'.statusLog = s.statusLog ∧ s'.everConnected = s.everConnected
  recv : e.isRecvLife = false → s'.recv = s.recv
  quiet : e.isCbOrCloseReturn = false → s'.closeReturned = s.closeReturned ∧ s'.cbCount = s.cbCount
  closeFromRecv : e.isInnerClose = false → s'.closeFromRecv = s.closeFromRecv
  reconn : e.isReconn = false → s'.reconn = s.reconn ∧ s'.reconnSlept = s.reconnSlept
  lock : e.isLock = false → s'.activeSends = s.activeSends ∧ s'.doneSends = s.doneSends ∧
    s'.failedSends = s.failedSends ∧ s'.lockHolder = s.lockHolder
  wire : e.isWrite = false → s'.sendNext = s.sendNext ∧ s'.sendConn = s.sendConn ∧ s'.wire = s.wire
  attempt : e.isAttempt = false → s'.connActive = s.connActive ∧ s'.implPending = s.implPending ∧
    s'.lastFailed = s.lastFailed ∧ s'.okConn = s.okConn ∧ s'.nextConn = s.nextConn ∧ s'.conn = s.conn
  shut : e.isShut = false → s'.writerClosed = s.writerClosed
  faulted : e.isFault = false → s'.faulted = s.faulted

theorem step_frame {s s' : CS} {e : Ev} (h : step s e = some s') : Frame s e s' := by
  -- once `s'` is an explicit update of `s`: for each group the event is in its class (`e.isX = false` is absurd) or the
  -- update leaves the group's fields alone (`rfl`)
  cases e with
  | connCall | closeCall | envFeed =>
    cases h
    constructor <;> intro h <;> first | exact Bool.noConfusion h | (repeat' constructor)
  | envEof | envReadErr =>
    cases h
    constructor <;> intro h <;> first | exact Bool.noConfusion h | (split <;> repeat' constructor)
  | connReturn | implStart | sleep =>
    rcases step_ite h with ⟨-, -, rfl⟩ | ⟨-, -, rfl⟩ <;> constructor <;> intro h <;>
      first | exact Bool.noConfusion h | (repeat' constructor)
  | drainFail =>
    dsimp only [step, stepCore] at h
    split at h
    · obtain ⟨-, rfl⟩ := step_guard h
      constructor <;> intro h <;> first | exact Bool.noConfusion h | (repeat' constructor)
    · cases h
  | _ =>
    obtain ⟨-, rfl⟩ := step_guard h
    constructor <;> intro h <;> first | exact Bool.noConfusion h | (repeat' constructor)

end N2k.Client

/-
The number codec: `decodeNumber` then `encodeNumber` gives the field's bits back.  A field of `len` bits holds the
integers of one window `[numLo, numLo + 2^len)`, the not-available code at its top; a resolution (and offset) for which
rounding the scaled value back is exact (`Scales`) carries the round trip, for integer and for decimal resolutions alike.
-/
import N2k.Lemmas.F64
import N2k.Lemmas.Dec01
namespace N2k

/-- the bits an encoder step contributes for value `n` in a `len`-bit field -/
def contrib (n : Int) (len : Nat) : Nat := (n % ((2 ^ len : Nat) : Int)).toNat

/-- representable interval of a NUMBER field (the top code is reserved for "not available") -/
def numLo (len : Nat) (signed : Bool) : Int := if signed then -((2 ^ (len - 1) : Nat) : Int) else 0
def numHi (len : Nat) (signed : Bool) : Int :=
  if signed then ((2 ^ (len - 1) : Nat) : Int) - 2 else if len = 1 then 1 else ((2 ^ len : Nat) : Int) - 2

/-- the scaled quotient the encoder rounds: `(value − offset) / resolution` in binary64 -/
def quotient (x : Num) (res ofs : Lit) : Rat := pyDiv (subLit x ofs) (litNum res)

end N2k
namespace N2k.Number
open N2k N2k.Spec

/-! ### `contrib`: an integer reduced to `len` bits; the field integer reduces to the field's bits (`contrib_fieldInt`) -/

theorem contrib_cast (n : Int) (len : Nat) : ((contrib n len : Nat) : Int) = n % ((2 ^ len : Nat) : Int) :=
  Int.toNat_of_nonneg (Int.emod_nonneg n (Int.natCast_pos.2 (Nat.two_pow_pos len)).ne')

theorem contrib_nat (v len : Nat) (h : v < 2 ^ len) : contrib (v : Int) len = v := by
  unfold contrib
  rw [← Int.natCast_mod, Int.toNat_natCast, Nat.mod_eq_of_lt h]

theorem contrib_lt (n : Int) (len : Nat) : contrib n len < 2 ^ len := by
  have h1 := contrib_cast n len
  have h2 := Int.emod_lt_of_pos n (Int.natCast_pos.2 (Nat.two_pow_pos len))
  omega

theorem contrib_add_pow (n : Int) (len : Nat) : contrib (((2 ^ len : Nat) : Int) + n) len = contrib n len := by
  unfold contrib
  rw [Int.add_emod_left]

theorem contrib_sub_pow (n : Int) (len : Nat) : contrib (n - ((2 ^ len : Nat) : Int)) len = contrib n len := by
  unfold contrib
  rw [Int.sub_emod_right]

theorem eq_of_contrib_eq {a b lo : Int} {len : Nat} (ha : lo ≤ a ∧ a < lo + ((2 ^ len : Nat) : Int))
    (hb : lo ≤ b ∧ b < lo + ((2 ^ len : Nat) : Int)) (h : contrib a len = contrib b len) : a = b := by
  have h' : a % ((2 ^ len : Nat) : Int) = b % ((2 ^ len : Nat) : Int) := by
    rw [← contrib_cast, ← contrib_cast, h]
  have hd := Int.dvd_of_emod_eq_zero (Int.emod_eq_emod_iff_emod_sub_eq_zero.mp h')
  have := Int.eq_zero_of_abs_lt_dvd hd (abs_lt.mpr ⟨by omega, by omega⟩)
  omega

theorem fieldInt_cases (data off len : Nat) (signed : Bool) :
    fieldInt data off len signed = (Straight.decode_int data off len : Nat) ∨
    fieldInt data off len signed = (Straight.decode_int data off len : Nat) - ((2 ^ len : Nat) : Int) := by
  unfold fieldInt signExtend
  split
  · split
    · exact Or.inr rfl
    · exact Or.inl rfl
  · exact Or.inl rfl

theorem contrib_fieldInt (data off len : Nat) (signed : Bool) :
    contrib (fieldInt data off len signed) len = Straight.decode_int data off len := by
  rcases fieldInt_cases data off len signed with h | h
  · rw [h]
    exact contrib_nat _ _ (Dec01.decode_int_lt ..)
  · rw [h, contrib_sub_pow]
    exact contrib_nat _ _ (Dec01.decode_int_lt ..)

theorem fieldInt_abs (data off len : Nat) (signed : Bool) (hl : len ≤ 48) :
    |((fieldInt data off len signed : Int) : ℚ)| ≤ 2 ^ 48 := by
  have hmono : 2 ^ len ≤ 2 ^ 48 := Nat.pow_le_pow_right (by decide) hl
  have hlt := Dec01.decode_int_lt data off len
  refine abs_cast_le_two_pow _ 48 (abs_le.mpr ?_)
  rcases fieldInt_cases data off len signed with h | h
  · rw [h]
    constructor <;> omega
  · rw [h]
    constructor <;> omega

/-! ### the window of a field: `[numLo, numLo + 2^len)`

The constants of a `len`-bit NUMBER field are placed relative to the window of the integers it can hold (`[0, 2^len)`
unsigned, `[-2^len/2, 2^len/2)` signed): `numHi` leaves out the top code and the one below it (one unsigned bit:
nothing), "not available" is the top code.  With these, what follows is linear arithmetic with `2^len` as an atom. -/

theorem numLo_bounds (len : Nat) (s : Bool) (hl : 1 ≤ len) :
    -((2 ^ len : Nat) : Int) ≤ 2 * numLo len s ∧ numLo len s ≤ 0 := by
  have hP := Nat.two_pow_pred_mul_two hl
  unfold numLo
  split <;> omega

theorem numHi_eq (len : Nat) (s : Bool) (hl : 1 ≤ len) :
    numHi len s = numLo len s + ((2 ^ len : Nat) : Int) - (if len = 1 ∧ s = false then 1 else 2) := by
  have hP := Nat.two_pow_pred_mul_two hl
  unfold numHi numLo
  cases s
  · by_cases h1 : len = 1
    · subst h1
      rfl
    · simp only [Bool.false_eq_true, if_false, if_neg h1, and_true]
      omega
  · simp only [if_true, reduceCtorEq, and_false, if_false]
    omega

def naVal (len : Nat) (signed : Bool) : Int :=
  if len ≤ 3 then ((2 ^ len : Nat) - 1 : Int)
  else if signed then ((2 ^ (len - 1) : Nat) - 1 : Int) else ((2 ^ len : Nat) - 1 : Int)

theorem naVal_unsigned (l : Nat) : naVal l false = ((2 ^ l : Nat) : Int) - 1 := by
  unfold naVal
  split <;> simp

theorem naVal_eq (len : Nat) (s : Bool) (hl : 1 ≤ len) (hs : s = true → 4 ≤ len) :
    naVal len s = numLo len s + ((2 ^ len : Nat) : Int) - 1 := by
  have hP := Nat.two_pow_pred_mul_two hl
  cases s
  · rw [naVal_unsigned, numLo, if_neg Bool.false_ne_true, zero_add]
  · rw [naVal, if_neg (by have := hs rfl; omega), if_pos rfl, numLo, if_pos rfl]
    omega

theorem signExtend_eq (n len : Nat) (hl : 1 ≤ len) (hn : n < 2 ^ len) :
    signExtend n len = if n < 2 ^ (len - 1) then (n : Int) else (n : Int) - ((2 ^ len : Nat) : Int) := by
  have hP := Nat.two_pow_pred_mul_two hl
  unfold signExtend
  by_cases hlt : n < 2 ^ (len - 1)
  · rw [Nat.div_eq_of_lt hlt, if_pos hlt]
    rfl
  · rw [Nat.div_eq_of_lt_le (k := 1) (by omega) (by omega), if_neg hlt]
    rfl

theorem fieldInt_spec (data off len : Nat) (s : Bool) (hl : 1 ≤ len) :
    numLo len s ≤ fieldInt data off len s ∧ fieldInt data off len s < numLo len s + ((2 ^ len : Nat) : Int) := by
  have hlt := Dec01.decode_int_lt data off len
  have hP := Nat.two_pow_pred_mul_two hl
  unfold fieldInt numLo
  split
  · rw [signExtend_eq _ _ hl hlt]
    split <;> omega
  · omega

/-! ### the not-available code: `naCode`, `naTime` and what `encodeNumber .none` returns are one value, `naVal` -/

theorem encodeNumber_none (len : Nat) (signed : Bool) (res ofs : Lit) (hl : len ≠ 1) :
    encodeNumber .none len signed res ofs = .ok (naVal len (effSigned signed ofs)) := by
  unfold encodeNumber naVal effSigned
  simp only [if_neg hl]

theorem naCode_eq (len : Nat) (signed : Bool) (hl : 2 ≤ len) : naCode len signed = some (naVal len signed) := by
  unfold naCode naVal
  rw [if_neg (by omega)]
  split
  · rfl
  · split <;> rfl

theorem naTime_eq (len : Nat) (signed : Bool) (hl : 4 ≤ len) : naTime len signed = naVal len signed := by
  unfold naTime naVal
  rw [if_neg (show ¬ len ≤ 3 by omega)]

theorem na_rt (data off len : Nat) (signed : Bool) (res mn mx ofs : Lit) (hl : 2 ≤ len)
    (hdec : decodeNumber data off len signed res mn mx ofs = .ok none) :
    contrib (naVal len (effSigned signed ofs)) len = Straight.decode_int data off len := by
  have h := (Dec01.decodeNumber_na ..).mp hdec
  rw [naCode_eq len _ hl] at h
  rw [Option.some.inj h]
  exact contrib_fieldInt ..

/-! ### `encodeNumber` on a finite number: range test of the rounded quotient, then the two's-complement wrap -/

theorem encodeNumber_num (x : Num) (len : Nat) (signed : Bool) (res ofs : Lit) (hres : res.val ≠ 0) :
    encodeNumber (numVal x) len signed res ofs =
      if rhe (quotient x res ofs) < numLo len (effSigned signed ofs) ∨
          rhe (quotient x res ofs) > numHi len (effSigned signed ofs) then .error .range
      else .ok (if effSigned signed ofs = true ∧ rhe (quotient x res ofs) < 0
                then ((2 ^ len : Nat) : Int) + rhe (quotient x res ofs)
                else rhe (quotient x res ofs)) := by
  cases x <;> simp only [numVal, encodeNumber, if_neg hres, numLo, numHi, effSigned, quotient] <;> rfl

theorem fieldInt_in_range (data off len : Nat) (signed : Bool) (hl1 : 1 ≤ len) (hs : signed = true → 4 ≤ len)
    (hna : naCode len signed ≠ some (fieldInt data off len signed)) :
    numLo len signed ≤ fieldInt data off len signed ∧ fieldInt data off len signed ≤ numHi len signed := by
  obtain ⟨hb1, hb2⟩ := fieldInt_spec data off len signed hl1
  have hhi := numHi_eq len signed hl1
  by_cases h1 : len = 1
  · have hsf : signed = false := by
      cases signed
      · rfl
      · have := hs rfl
        omega
    rw [if_pos ⟨h1, hsf⟩] at hhi
    omega
  · rw [naCode_eq len signed (by omega)] at hna
    have hn := naVal_eq len signed hl1 hs
    have hne : fieldInt data off len signed ≠ naVal len signed := fun e => hna (by rw [e])
    omega

theorem encodeNumber_of_rhe (x : Num) (data off len : Nat) (signed : Bool) (res ofs : Lit)
    (hres : res.val ≠ 0) (hl1 : 1 ≤ len) (hs : effSigned signed ofs = true → 4 ≤ len)
    (hna : naCode len (effSigned signed ofs) ≠ some (fieldInt data off len (effSigned signed ofs)))
    (hq : rhe (quotient x res ofs) = fieldInt data off len (effSigned signed ofs)) :
    ∃ n, encodeNumber (numVal x) len signed res ofs = .ok n ∧ contrib n len = Straight.decode_int data off len := by
  rw [encodeNumber_num x len signed res ofs hres, hq]
  have hr := fieldInt_in_range data off len _ hl1 hs hna
  rw [if_neg (by omega)]
  refine ⟨_, rfl, ?_⟩
  split
  · rw [contrib_add_pow]
    exact contrib_fieldInt ..
  · exact contrib_fieldInt ..

/-! ### integer resolution and offset: `round((z·r + o − o) / r) = z`, exactly -/

theorem val_int_ne_zero (r : Lit) (hf : r.isFloat = false) (hm : 0 < r.m) : r.val ≠ 0 := by
  unfold Lit.val Lit.exact
  rw [hf]
  simp only [Bool.false_eq_true, if_false]
  have : (0 : ℚ) < (r.m : ℚ) := by exact_mod_cast hm
  exact (mul_pos this (pow10_pos _)).ne'

theorem quot_int (z : Int) (res ofs : Lit) (hf : res.isFloat = false) (hm : 0 < res.m)
    (hof : ofs.isFloat = false) (hz : |(z : ℚ)| ≤ 2 ^ 48) :
    rhe (pyDiv (subLit (addLit (mulLit z res) ofs) ofs) (litNum res)) = z := by
  simp only [mulLit, addLit, subLit, litNum, hf, hof, Bool.false_eq_true, if_false, pyDiv]
  have hr : (res.m : ℚ) ≠ 0 := Int.cast_ne_zero.mpr hm.ne'
  have h53 : |z| ≤ 2 ^ 53 := by
    have : |(z : ℚ)| ≤ 2 ^ 53 := hz.trans (by norm_num)
    exact_mod_cast this
  rw [Int.add_sub_cancel, Int.cast_mul, mul_div_cancel_right₀ _ hr, rne_int_exact z h53, rhe_int]

/-! ### decimal resolution, no Offset: adding and subtracting 0 round to themselves, the rest is F64's
`scale_roundtrip_lit_of_normal` -/

theorem val_float_ne_zero (res : Lit) (hf : res.isFloat = true) (hres : pow2 (-1022) ≤ res.exact) :
    res.val ≠ 0 :=
  (lt_of_lt_of_le (pow2_pos _) (Lit.val_pos_of_normal res hf hres)).ne'

theorem addLit_flt_zero (q : ℚ) : addLit (.flt (rne q)) (Lit.ofInt 0) = .flt (rne q) := by
  simp only [addLit, Dec01.ofInt_zero_val, rne_zero, add_zero, rne_idem]

theorem subLit_flt_zero (q : ℚ) : subLit (.flt (rne q)) (Lit.ofInt 0) = .flt (rne q) := by
  simp only [subLit, Dec01.ofInt_zero_val, rne_zero, sub_zero, rne_idem]

theorem decoded_float (z : Int) (res : Lit) (hf : res.isFloat = true) :
    addLit (mulLit z res) (Lit.ofInt 0) = mulLit z res := by
  rw [mulLit_float z res hf, addLit_flt_zero]

theorem subLit_decoded (z : Int) (res : Lit) :
    subLit (addLit (mulLit z res) (Lit.ofInt 0)) (Lit.ofInt 0) = addLit (mulLit z res) (Lit.ofInt 0) := by
  cases hf : res.isFloat
  · simp [mulLit, hf, addLit, subLit, Lit.ofInt]
  · rw [decoded_float z res hf, mulLit_float z res hf, subLit_flt_zero]

theorem quot_float (z : Int) (res : Lit) (hf : res.isFloat = true) (hres : pow2 (-1022) ≤ res.exact)
    (hz : |(z : ℚ)| ≤ 2 ^ 48) :
    rhe (pyDiv (subLit (addLit (mulLit z res) (Lit.ofInt 0)) (Lit.ofInt 0)) (litNum res)) = z := by
  rw [subLit_decoded, decoded_float z res hf, litNum_float res hf]
  exact scale_roundtrip_lit_of_normal z res hf hres hz

/-- scaling by `res` and `ofs` is undone exactly by the encoder's division and rounding, for raw counts
of up to 48 bits -/
def Scales (res ofs : Lit) : Prop :=
  res.val ≠ 0 ∧ ∀ z : Int, |(z : ℚ)| ≤ 2 ^ 48 → rhe (quotient (addLit (mulLit z res) ofs) res ofs) = z

theorem scales_int (res ofs : Lit) (hf : res.isFloat = false) (hm : 0 < res.m) (hof : ofs.isFloat = false) :
    Scales res ofs :=
  ⟨val_int_ne_zero res hf hm, fun z hz => quot_int z res ofs hf hm hof hz⟩

theorem scales_float (res : Lit) (hf : res.isFloat = true) (hres : pow2 (-1022) ≤ res.exact) :
    Scales res (Lit.ofInt 0) :=
  ⟨val_float_ne_zero res hf hres, fun z hz => quot_float z res hf hres hz⟩

theorem number_rt {data off len : Nat} {signed : Bool} {res mn mx ofs : Lit} {v : Num} (h : Scales res ofs)
    (hl1 : 1 ≤ len) (hl : len ≤ 48) (hs : effSigned signed ofs = true → 4 ≤ len)
    (hdec : decodeNumber data off len signed res mn mx ofs = .ok (some v)) :
    ∃ n, encodeNumber (numVal v) len signed res ofs = .ok n ∧
      contrib n len = Straight.decode_int data off len := by
  obtain ⟨hna, rfl⟩ := Dec01.decodeNumber_some hdec
  exact encodeNumber_of_rhe _ data off len signed res ofs h.1 hl1 hs hna (h.2 _ (fieldInt_abs data off len _ hl))

/-- TIME / DURATION: the encoder divides the reported raw value by the resolution and rounds -/
theorem ticks_rt {data off len : Nat} {signed : Bool} {res mn mx : Lit} {v : Num} (h : Scales res (Lit.ofInt 0))
    (hl : len ≤ 48) (hdec : decodeNumber data off len signed res mn mx (Lit.ofInt 0) = .ok (some v)) :
    contrib (rhe (pyDiv v (litNum res))) len = Straight.decode_int data off len := by
  obtain ⟨-, rfl⟩ := Dec01.decodeNumber_some hdec
  have := h.2 _ (fieldInt_abs data off len (effSigned signed (Lit.ofInt 0)) hl)
  rw [quotient, subLit_decoded] at this
  rw [this, Dec01.effSigned_zero]
  exact contrib_fieldInt ..

end N2k.Number

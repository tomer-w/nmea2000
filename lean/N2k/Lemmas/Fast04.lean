/-
Reassembly.  `step` is given one equation for each of the three outcomes the proofs meet (first frame, later frame
stored, frame ignored); a message is abstracted to its first frame and the list `T` of
its later frames (`SegOK`), and one invariant (`stateOf`: the record holds exactly the frames of `T` seen so far, and
is gone once all were seen) describes `run` on the first frame followed by ANY frames of the message and stale ones.
The in-order round trip, the sequence of messages and padding independence are read off from it.
What speaks of the model alone stands in `N2k.Fast`; the namespace `L04` holds what speaks of one message
(`SegOK`, `allSeen`, `stateOf`, `specOuts`), with the few list facts that serve it.
-/
import N2k.Model.FastKeyed
import N2k.Lemmas.Fast03
namespace N2k.Fast

/-- A frame that is "stale" with respect to the message under reassembly: a non-first frame that
carries another sequence counter (left over from an earlier message). -/
def isStale (seq : Nat) (f : Bytes) : Prop :=
  ∃ b rest, f = b :: rest ∧ b % 32 ≠ 0 ∧ b / 32 % 8 ≠ seq

def seenAll (F : List Bytes) (hist : List Bytes) : Prop := ∀ f ∈ F, f ∈ hist

/-- how both storing branches of `step` end -/
def finish (r : Rec) : Option Rec × Out :=
  if r.stored ≥ r.len then (some r, .complete (combined r)) else (some r, .stored)

theorem step_head (r : Option Rec) (b L : Nat) (d : Bytes) (hb : b % 32 = 0)
    (h : startsNew r (b / 32 % 8) (L :: d) = true) :
    step r (b :: L :: d) = finish ⟨L, b / 32 % 8, d.length, [(0, d)]⟩ := by
  unfold step
  dsimp only
  rw [if_neg (fun h => h.1 hb), if_pos ⟨hb, h⟩]
  rfl

theorem step_later (x : Rec) (b : Nat) (d : Bytes) (hb : b % 32 ≠ 0) (hl : x.len ≠ 0)
    (hq : x.seq = b / 32 % 8) (hh : hasFrame (b % 32) x.frames = false) :
    step (some x) (b :: d) =
      finish { x with stored := x.stored + d.length, frames := insertFrame (b % 32) d x.frames } := by
  unfold step
  dsimp only
  rw [if_neg (fun h => hl h.2), if_neg (fun h => hb h.1), if_neg (not_not_intro hq), hh,
    if_neg Bool.false_ne_true]
  rfl

theorem step_ignored (r : Option Rec) (b : Nat) (d : Bytes) (hb : b % 32 ≠ 0)
    (h : ∀ x, r = some x → x.len = 0 ∨ x.seq ≠ b / 32 % 8 ∨ hasFrame (b % 32) x.frames = true) :
    step r (b :: d) = (r, .ignored) := by
  unfold step
  cases r with
  | none => exact if_pos ⟨hb, rfl⟩
  | some x =>
    dsimp only
    rw [if_neg (fun h : b % 32 = 0 ∧ _ => hb h.1)]
    rcases h x rfl with h | h | h
    · rw [if_pos ⟨hb, h⟩]
    · rw [if_pos h, ite_self]
    · rw [if_pos h, ite_self, ite_self]

theorem startsNew_of_seq_ne (r0 : Option Rec) (seq : Nat) (rest : Bytes)
    (h0 : ∀ x, r0 = some x → x.seq ≠ seq) : startsNew r0 seq rest = true := by
  cases r0 with
  | none => rfl
  | some x =>
    cases rest with
    | nil => rfl
    | cons t p => simp only [startsNew, h0 x rfl, ne_eq, not_false_eq_true, decide_true, Bool.true_or]

theorem step_first (r0 : Option Rec) (seq : Nat) (hs : seq < 8) (total : Nat) (payload : Bytes)
    (h0 : ∀ x, r0 = some x → x.seq ≠ seq) :
    step r0 (seq * 32 :: total :: payload) =
      (let r' : Rec := { len := total, seq := seq, stored := payload.length, frames := [(0, payload)] }
       if r'.stored ≥ r'.len then (some r', .complete (combined r')) else (some r', .stored)) := by
  have e : seq * 32 / 32 % 8 = seq := by rw [Nat.mul_div_cancel _ (by decide), Nat.mod_eq_of_lt hs]
  rw [step_head _ _ _ _ (Nat.mul_mod_left ..) (startsNew_of_seq_ne _ _ _ (e.symm ▸ h0)), e]
  rfl

/-- what `run` keeps after one step -/
def keep (r : Option Rec) (f : Bytes) : Option Rec :=
  match (step r f).2 with
  | .complete _ => none
  | _ => (step r f).1

theorem run_cons (r : Option Rec) (f : Bytes) (fs : List Bytes) :
    run r (f :: fs) = ((run (keep r f) fs).1, (step r f).2 :: (run (keep r f) fs).2) := by
  simp only [run, keep]
  rfl

theorem run_append (a b : List Bytes) (r : Option Rec) :
    run r (a ++ b) = ((run (run r a).1 b).1, (run r a).2 ++ (run (run r a).1 b).2) := by
  induction a generalizing r with
  | nil => rfl
  | cons f fs ih =>
    rw [List.cons_append, run_cons, run_cons, ih]
    rfl

theorem run_length (r : Option Rec) (fs : List Bytes) : (run r fs).2.length = fs.length := by
  induction fs generalizing r with
  | nil => rfl
  | cons f fs ih => rw [run_cons, List.length_cons, ih, List.length_cons]

/-! ### the keyed table: every stream runs on its own -/

theorem lookup_erase (t : Table) (k k' : Key) :
    lookup (erase t k) k' = if k' = k then none else lookup t k' := by
  induction t with
  | nil => exact (ite_self _).symm
  | cons p t ih =>
    unfold erase at ih ⊢
    rw [List.filter_cons]
    by_cases h : p.1 = k
    · simp only [ne_eq, h, not_true_eq_false, decide_false, Bool.false_eq_true, if_false, lookup, ih]
      by_cases h2 : k' = k
      · rw [if_pos h2, if_pos h2]
      · rw [if_neg h2, if_neg h2, if_neg (Ne.symm h2)]
    · simp only [ne_eq, h, not_false_eq_true, decide_true, if_true, lookup, ih]
      by_cases h2 : p.1 = k'
      · rw [if_pos h2, if_neg (h2 ▸ h), if_pos h2]
      · rw [if_neg h2, if_neg h2]

theorem lookup_set (t : Table) (k k' : Key) (r : Rec) :
    lookup (set t k r) k' = if k' = k then some r else lookup t k' := by
  rw [set, lookup, lookup_erase]
  by_cases h : k = k'
  · rw [if_pos h, if_pos h.symm]
  · rw [if_neg h, if_neg (Ne.symm h), if_neg (Ne.symm h)]

theorem stepK_out (t : Table) (k : Key) (f : Bytes) :
    (stepK t k f).2 = (step (lookup t k) f).2 := rfl

theorem lookup_stepK (t : Table) (k k' : Key) (f : Bytes) :
    lookup (stepK t k f).1 k' = if k' = k then keep (lookup t k) f else lookup t k' := by
  have e : (stepK t k f).1 = match keep (lookup t k) f with | some x => set t k x | none => erase t k := by
    unfold stepK keep
    generalize step (lookup t k) f = s
    obtain ⟨r', o⟩ := s
    cases o <;> rfl
  rw [e]
  cases keep (lookup t k) f with
  | none => exact lookup_erase ..
  | some x => exact lookup_set ..

theorem runK_cons (t : Table) (k : Key) (f : Bytes) (h : List (Key × Bytes)) :
    runK t ((k, f) :: h) =
      ((runK (stepK t k f).1 h).1, (stepK t k f).2 :: (runK (stepK t k f).1 h).2) := rfl

/-- outputs of a keyed history restricted to stream `k` -/
def outsOf (k : Key) : List (Key × Bytes) → List Out → List Out
  | (k', _) :: h, o :: os => if k' = k then o :: outsOf k h os else outsOf k h os
  | _, _ => []

def framesOf (k : Key) (h : List (Key × Bytes)) : List Bytes :=
  h.filterMap (fun p => if p.1 = k then some p.2 else none)

theorem runK_proj (t : Table) (h : List (Key × Bytes)) (k : Key) :
    run (lookup t k) (framesOf k h) = (lookup (runK t h).1 k, outsOf k h (runK t h).2) := by
  induction h generalizing t with
  | nil => rfl
  | cons p h ih =>
    obtain ⟨k', f⟩ := p
    have ih' := ih (stepK t k' f).1
    unfold framesOf at ih' ⊢
    rw [lookup_stepK] at ih'
    rw [runK_cons, List.filterMap_cons, outsOf]
    by_cases hk : k' = k
    · subst hk
      rw [if_pos rfl] at ih'
      rw [if_pos rfl, if_pos rfl, run_cons, ih']
      rfl
    · rw [if_neg (Ne.symm hk)] at ih'
      rw [if_neg hk, if_neg hk]
      exact ih'

theorem insertFrame_lt_all (i : Nat) (d : Bytes) (l : List (Nat × Bytes)) (h : ∀ q ∈ l, i < q.1) :
    insertFrame i d l = (i, d) :: l := by
  cases l with
  | nil => rfl
  | cons q l => rw [insertFrame, if_pos (h q (List.mem_cons_self ..))]

theorem sum_insertFrame (i : Nat) (d : Bytes) (l : List (Nat × Bytes)) :
    ((insertFrame i d l).map (fun q => q.2.length)).sum = (l.map (fun q => q.2.length)).sum + d.length := by
  induction l with
  | nil => exact (Nat.zero_add _).symm
  | cons q l ih =>
    unfold insertFrame
    split
    · exact Nat.add_comm ..
    · rw [List.map_cons, List.sum_cons, ih]
      exact (Nat.add_assoc ..).symm

theorem framesPad_of_concat {seq : Nat} {P : Bytes} {init : List Bytes} {a : Bytes}
    (h : frames seq P = init ++ [a]) (pad : Bytes) : framesPad seq P pad = init ++ [a ++ pad] := by
  rw [framesPad, h, List.reverse_append]
  exact congrArg (· ++ _) (List.reverse_reverse _)

theorem framesPad_nil (seq : Nat) (P : Bytes) : framesPad seq P [] = frames seq P := by
  have hne : frames seq P ≠ [] := List.cons_ne_nil _ _
  rw [framesPad_of_concat (List.dropLast_concat_getLast hne).symm, List.append_nil,
    List.dropLast_concat_getLast hne]

theorem framesPad_length (seq : Nat) (P pad : Bytes) :
    (framesPad seq P pad).length = (frames seq P).length := by
  have hne : frames seq P ≠ [] := List.cons_ne_nil _ _
  rw [framesPad_of_concat (List.dropLast_concat_getLast hne).symm, List.length_append, List.length_singleton,
    List.length_dropLast, Nat.sub_add_cancel (List.length_pos_iff.2 hne)]

namespace L04

/-! ### the frames of a message, sorted by frame counter, and those of them that a predicate selects -/

def key (f : Bytes) : Nat := f.headD 0 % 32
def toPair (f : Bytes) : Nat × Bytes := (key f, f.tail)
def dlen (f : Bytes) : Nat := f.tail.length

theorem key_inj {T : List Bytes} (hT : T.Pairwise (fun a b => key a < key b)) {f g : Bytes}
    (hf : f ∈ T) (hg : g ∈ T) (h : key f = key g) : f = g :=
  List.Pairwise.forall_of_forall_of_flip (R := fun a b => key a = key b → a = b) (fun _ _ _ => rfl)
    (hT.imp fun h e => absurd e (Nat.ne_of_lt h)) (hT.imp fun h e => absurd e (Nat.ne_of_gt h)) hf hg h

theorem insertFrame_filter {T : List Bytes} (hT : T.Pairwise (fun a b => key a < key b))
    (p : Bytes → Bool) {f : Bytes} (hf : f ∈ T) (hp : p f = false) :
    insertFrame (key f) f.tail ((T.filter p).map toPair) =
      (T.filter (fun a => p a || decide (a = f))).map toPair := by
  induction T with
  | nil => cases hf
  | cons a T ih =>
    rw [List.pairwise_cons] at hT
    rcases List.mem_cons.1 hf with rfl | hf'
    · have e : T.filter (fun a => p a || decide (a = f)) = T.filter p :=
        List.filter_congr fun b hb => by
          have := hT.1 b hb
          rw [decide_eq_false (fun e => by subst e; omega), Bool.or_false]
      simp only [List.filter_cons, hp, decide_true, Bool.or_true, if_true, e, Bool.false_eq_true, if_false,
        List.map_cons]
      refine insertFrame_lt_all _ _ _ fun q hq => ?_
      obtain ⟨b, hb, rfl⟩ := List.mem_map.1 hq
      exact hT.1 b (List.mem_filter.1 hb).1
    · have hlt := hT.1 f hf'
      rw [List.filter_cons, List.filter_cons, decide_eq_false (fun e => by subst e; omega), Bool.or_false]
      split
      · rw [List.map_cons, List.map_cons, insertFrame,
          if_neg (show ¬ key f < (toPair a).1 from Nat.lt_asymm hlt), ih hT.2 hf']
      · exact ih hT.2 hf'

theorem sum_filter_le (w : Bytes → Nat) (p : Bytes → Bool) (T : List Bytes) :
    ((T.filter p).map w).sum ≤ (T.map w).sum := by
  rw [← ((List.filter_append_perm p T).map w).sum_nat, List.map_append, List.sum_append_nat]
  exact Nat.le_add_right ..

/-! ### one message under reassembly: the record after any of its frames, and the outputs specified for any history -/

/-- what the proof needs to know about the frames after the first one (`T`), the data of the
first frame (`d0`), the announced length `L` and the payload `P`: all frames together reach `L` (`tot_ge`), without any
one of `T` they do not (`tot_lt`: nothing completes before the last missing frame arrives). -/
structure SegOK (seq L : Nat) (P d0 : Bytes) (T : List Bytes) : Prop where
  hdr : ∀ f ∈ T, ∃ b d, f = b :: d ∧ b % 32 ≠ 0 ∧ b / 32 % 8 = seq
  sorted : T.Pairwise (fun a b => key a < key b)
  tot_ge : L ≤ d0.length + (T.map dlen).sum
  tot_lt : ∀ f ∈ T, d0.length + (T.map dlen).sum < L + dlen f
  payload : (d0 ++ (T.map List.tail).flatten).take L = P

/-- the same predicate as `seenAll` -/
def allSeen (T pre : List Bytes) : Prop := ∀ f ∈ T, f ∈ pre

instance (T pre : List Bytes) : Decidable (allSeen T pre) := by unfold allSeen; infer_instance

def seenF (T pre : List Bytes) : List Bytes := T.filter (fun f => decide (f ∈ pre))

/-- the record that holds the first frame and the later frames `A`; its byte count agrees with its frames -/
def recOf (L seq : Nat) (d0 : Bytes) (A : List Bytes) : Rec :=
  { len := L, seq := seq, stored := (((0, d0) :: A.map toPair).map (fun q => q.2.length)).sum,
    frames := (0, d0) :: A.map toPair }

/-- the stream after the first frame and the frames `pre`: the frames of `T` seen so far, nothing once all were seen -/
def stateOf (L seq : Nat) (d0 : Bytes) (T pre : List Bytes) : Option Rec :=
  if allSeen T pre then none else some (recOf L seq d0 (seenF T pre))

theorem recOf_stored (L seq : Nat) (d0 : Bytes) (A : List Bytes) :
    (recOf L seq d0 A).stored = d0.length + (A.map dlen).sum := by
  simp only [recOf, List.map_cons, List.sum_cons, List.map_map]
  rfl

theorem recOf_combined (L seq : Nat) (d0 : Bytes) (A : List Bytes) :
    combined (recOf L seq d0 A) = (d0 ++ (A.map List.tail).flatten).take L := by
  simp only [combined, recOf, List.map_cons, List.map_map, List.flatten_cons]
  rfl

theorem recOf_hasFrame {T : List Bytes} (hT : T.Pairwise (fun a b => key a < key b)) (L seq : Nat) (d0 : Bytes)
    (p : Bytes → Bool) {f : Bytes} (hf : f ∈ T) (h0 : key f ≠ 0) :
    hasFrame (key f) (recOf L seq d0 (T.filter p)).frames = p f := by
  rw [Bool.eq_iff_iff]
  simp only [recOf, hasFrame, List.any_cons, beq_eq_false_iff_ne.2 (Ne.symm h0), Bool.false_or, List.any_eq_true,
    List.mem_map, List.mem_filter, beq_iff_eq]
  constructor
  · rintro ⟨q, ⟨g, ⟨hg, hpg⟩, rfl⟩, hk⟩
    exact key_inj hT hg hf hk ▸ hpg
  · exact fun h => ⟨toPair f, ⟨f, ⟨hf, h⟩, rfl⟩, rfl⟩

theorem recOf_insert {T : List Bytes} (hT : T.Pairwise (fun a b => key a < key b)) (L seq : Nat) (d0 : Bytes)
    (p : Bytes → Bool) {f : Bytes} (hf : f ∈ T) (hp : p f = false) :
    ({ recOf L seq d0 (T.filter p) with
        stored := (recOf L seq d0 (T.filter p)).stored + f.tail.length,
        frames := insertFrame (key f) f.tail (recOf L seq d0 (T.filter p)).frames } : Rec) =
      recOf L seq d0 (T.filter (fun a => p a || decide (a = f))) := by
  simp only [recOf, ← insertFrame_filter hT p hf hp, ← sum_insertFrame (key f) f.tail]
  rw [insertFrame, if_neg (Nat.not_lt_zero _)]

theorem allSeen_mono' {T pre : List Bytes} (l : List Bytes) (h : allSeen T pre) : allSeen T (pre ++ l) :=
  fun g hg => List.mem_append_left _ (h g hg)

theorem allSeen_iff {T pre : List Bytes} : allSeen T pre ↔ seenF T pre = T := by
  simp only [allSeen, seenF, List.filter_eq_self, decide_eq_true_eq]

theorem seenF_snoc (T pre : List Bytes) (f : Bytes) :
    seenF T (pre ++ [f]) = T.filter (fun a => decide (a ∈ pre) || decide (a = f)) := by
  simp only [seenF, List.mem_append, List.mem_singleton, Bool.decide_or]

theorem seenF_old {T pre : List Bytes} {f : Bytes} (h : f ∉ T ∨ f ∈ pre) :
    seenF T (pre ++ [f]) = seenF T pre := by
  rw [seenF_snoc]
  refine List.filter_congr fun a ha => ?_
  by_cases e : a = f
  · subst e
    rw [decide_eq_true (h.resolve_left (not_not_intro ha)), Bool.true_or]
  · rw [decide_eq_false e, Bool.or_false]

theorem allSeen_old {T pre : List Bytes} {f : Bytes} (h : f ∉ T ∨ f ∈ pre) :
    allSeen T (pre ++ [f]) ↔ allSeen T pre := by
  rw [allSeen_iff, allSeen_iff, seenF_old h]

/-- the output the model must give for frame `f` after the frames `pre` -/
def specOut (T : List Bytes) (P : Bytes) (pre : List Bytes) (f : Bytes) : Out :=
  if allSeen T pre then .ignored
  else if f ∈ T ∧ f ∉ pre then (if allSeen T (pre ++ [f]) then .complete P else .stored)
  else .ignored

def specOuts (T : List Bytes) (P : Bytes) : List Bytes → List Bytes → List Out
  | _, [] => []
  | pre, f :: fs => specOut T P pre f :: specOuts T P (pre ++ [f]) fs

theorem allSeen_cons {h : Bytes} {T pre : List Bytes} (hp : h ∈ pre) : allSeen (h :: T) pre ↔ allSeen T pre :=
  List.forall_mem_cons.trans (and_iff_right hp)

theorem specOut_cons {h : Bytes} (T : List Bytes) (P : Bytes) {pre : List Bytes} (hp : h ∈ pre) (f : Bytes) :
    specOut (h :: T) P pre f = specOut T P pre f := by
  have e : (f ∈ h :: T ∧ f ∉ pre) ↔ (f ∈ T ∧ f ∉ pre) :=
    and_congr_left fun hf => List.mem_cons.trans (or_iff_right fun e => hf (e ▸ hp))
  simp only [specOut, allSeen_cons hp, allSeen_cons (List.mem_append_left _ hp), e]

theorem specOut_first (h : Bytes) (T : List Bytes) (P : Bytes) :
    specOut (h :: T) P [] h = if allSeen T [h] then .complete P else .stored := by
  rw [specOut, if_neg (fun a => nomatch a h (List.mem_cons_self ..)),
    if_pos (show h ∈ h :: T ∧ h ∉ [] from ⟨List.mem_cons_self .., List.not_mem_nil⟩), List.nil_append]
  simp only [allSeen_cons (List.mem_singleton_self h)]

section
variable {seq L : Nat} {P d0 : Bytes} {T : List Bytes} (ok : SegOK seq L P d0 T)
include ok

theorem recOf_stored_lt {pre : List Bytes} (h : ¬ allSeen T pre) : (recOf L seq d0 (seenF T pre)).stored < L := by
  obtain ⟨g, hg, hgp⟩ : ∃ g, g ∈ T ∧ g ∉ pre := by
    simpa only [allSeen, Classical.not_forall, exists_prop] using h
  have h0 := congrArg Rec.stored
    (recOf_insert ok.sorted L seq d0 (fun a => decide (a ∈ pre)) hg (decide_eq_false hgp))
  have h1 := sum_filter_le dlen (fun a => decide (a ∈ pre) || decide (a = g)) T
  have h2 : _ < L + g.tail.length := ok.tot_lt g hg
  rw [recOf_stored, recOf_stored] at h0
  dsimp only at h0
  rw [seenF, recOf_stored]
  omega

theorem finish_recOf (pre : List Bytes) :
    finish (recOf L seq d0 (seenF T pre)) =
      (some (recOf L seq d0 (seenF T pre)), if allSeen T pre then .complete P else .stored) := by
  rw [finish, show (recOf L seq d0 (seenF T pre)).len = L from rfl]
  by_cases h : allSeen T pre
  · rw [if_pos h, allSeen_iff.1 h, if_pos (recOf_stored .. ▸ ok.tot_ge), recOf_combined, ok.payload]
  · rw [if_neg h, if_neg (Nat.not_le.2 (recOf_stored_lt ok h))]

theorem out_keep_of_step_eq_finish {r : Option Rec} {f : Bytes} {pre : List Bytes}
    (h : step r f = finish (recOf L seq d0 (seenF T pre))) :
    (step r f).2 = (if allSeen T pre then .complete P else .stored) ∧ keep r f = stateOf L seq d0 T pre := by
  unfold keep stateOf
  rw [h, finish_recOf ok]
  split <;> exact ⟨rfl, rfl⟩

theorem step_spec {hd : Bytes} (pre : List Bytes) (hp : hd ∈ pre) (f : Bytes) (hf : f ∈ T ∨ isStale seq f) :
    (step (stateOf L seq d0 T pre) f).2 = specOut (hd :: T) P pre f ∧
      keep (stateOf L seq d0 T pre) f = stateOf L seq d0 T (pre ++ [f]) := by
  rw [specOut_cons T P hp]
  obtain ⟨b, d, rfl, hb, hq⟩ : ∃ b d, f = b :: d ∧ b % 32 ≠ 0 ∧ (b :: d ∈ T ↔ b / 32 % 8 = seq) := by
    rcases hf with hf | ⟨b, d, rfl, hb, hq⟩
    · obtain ⟨b, d, rfl, hb, hq⟩ := ok.hdr f hf
      exact ⟨b, d, rfl, hb, iff_of_true hf hq⟩
    · refine ⟨b, d, rfl, hb, iff_of_false (fun h => ?_) hq⟩
      obtain ⟨_, _, e, _, hq'⟩ := ok.hdr _ h
      cases e
      exact hq hq'
  have hhas := fun h => recOf_hasFrame ok.sorted L seq d0 (fun f => decide (f ∈ pre)) h (f := b :: d) hb
  by_cases hnew : b :: d ∈ T ∧ b :: d ∉ pre
  · have hall : ¬ allSeen T pre := fun h => hnew.2 (h _ hnew.1)
    have hlen : L ≠ 0 := Nat.ne_of_gt (Nat.zero_lt_of_lt (recOf_stored_lt ok hall))
    have hs := (step_later (recOf L seq d0 (seenF T pre)) b d hb hlen (hq.1 hnew.1).symm
      ((hhas hnew.1).trans (decide_eq_false hnew.2))).trans
      (congrArg finish (recOf_insert ok.sorted L seq d0 _ hnew.1 (decide_eq_false hnew.2)))
    rw [← seenF_snoc] at hs
    rw [stateOf, if_neg hall, specOut, if_neg hall, if_pos hnew]
    exact out_keep_of_step_eq_finish ok hs
  · have hs : step (stateOf L seq d0 T pre) (b :: d) = (stateOf L seq d0 T pre, .ignored) := by
      refine step_ignored _ b d hb fun x hx => .inr ?_
      unfold stateOf at hx
      split at hx
      · cases hx
      · cases hx
        by_cases hT : b :: d ∈ T
        · exact .inr ((hhas hT).trans (decide_eq_true (Classical.not_not.1 fun h => hnew ⟨hT, h⟩)))
        · exact .inl fun e => hT (hq.2 e.symm)
    have hold := Classical.not_and_iff_not_or_not.1 hnew |>.imp_right Classical.not_not.1
    have e : stateOf L seq d0 T (pre ++ [b :: d]) = stateOf L seq d0 T pre := by
      simp only [stateOf, allSeen_old hold, seenF_old hold]
    rw [keep, hs, e, specOut, if_neg hnew, ite_self]
    exact ⟨rfl, rfl⟩

theorem run_spec {hd : Bytes} (rest pre : List Bytes) (hp : hd ∈ pre) (hrest : ∀ f ∈ rest, f ∈ T ∨ isStale seq f) :
    run (stateOf L seq d0 T pre) rest = (stateOf L seq d0 T (pre ++ rest), specOuts (hd :: T) P pre rest) := by
  induction rest generalizing pre with
  | nil =>
    rw [List.append_nil]
    rfl
  | cons f fs ih =>
    rw [List.forall_mem_cons] at hrest
    obtain ⟨h1, h2⟩ := step_spec ok pre hp f hrest.1
    rw [run_cons, h1, h2, ih _ (List.mem_append_left _ hp) hrest.2, List.append_assoc]
    rfl

theorem head_not_mem (l : Bytes) : (seq * 32 :: l) ∉ T := by
  intro h
  obtain ⟨b, d, e, hb, _⟩ := ok.hdr _ h
  cases e
  exact hb (Nat.mul_mod_left ..)

theorem segment_run (hs : seq < 8) (r0 : Option Rec) (h0 : startsNew r0 seq (L :: d0) = true) (rest : List Bytes)
    (hrest : ∀ f ∈ rest, f ∈ T ∨ isStale seq f) :
    run r0 ((seq * 32 :: L :: d0) :: rest) =
      (stateOf L seq d0 T ((seq * 32 :: L :: d0) :: rest),
        specOuts ((seq * 32 :: L :: d0) :: T) P [] ((seq * 32 :: L :: d0) :: rest)) := by
  have e : seq * 32 / 32 % 8 = seq := by rw [Nat.mul_div_cancel _ (by decide), Nat.mod_eq_of_lt hs]
  have hF : seenF T [seq * 32 :: L :: d0] = [] :=
    List.filter_eq_nil_iff.2 fun a ha => by
      rw [decide_eq_true_eq, List.mem_singleton]
      exact fun e => head_not_mem ok _ (e ▸ ha)
  have hstep := step_head r0 (seq * 32) L d0 (Nat.mul_mod_left ..) (e.symm ▸ h0)
  rw [e, show (⟨L, seq, d0.length, [(0, d0)]⟩ : Rec) = recOf L seq d0 (seenF T [seq * 32 :: L :: d0]) by
    rw [hF]; rfl] at hstep
  obtain ⟨h1, h2⟩ := out_keep_of_step_eq_finish ok hstep
  rw [run_cons, h1, h2, run_spec ok rest _ (List.mem_singleton_self _) hrest, specOuts, specOut_first]
  rfl

end

/-! ### the specified outputs: only `stored`, `ignored`, `complete P`; `complete P` at most once, exactly when the last
missing frame arrives; and what they are when the frames come in order -/

theorem specOuts_length (T : List Bytes) (P : Bytes) (pre rest : List Bytes) :
    (specOuts T P pre rest).length = rest.length := by
  induction rest generalizing pre with
  | nil => rfl
  | cons f fs ih => rw [specOuts, List.length_cons, ih, List.length_cons]

theorem specOuts_sound (T : List Bytes) (P : Bytes) (pre rest : List Bytes) :
    ∀ o ∈ specOuts T P pre rest, o = Out.stored ∨ o = Out.ignored ∨ o = Out.complete P := by
  induction rest generalizing pre with
  | nil => nofun
  | cons f fs ih =>
    refine List.forall_mem_cons.2 ⟨?_, ih _⟩
    unfold specOut
    split
    · exact .inr (.inl rfl)
    · split
      · split
        · exact .inr (.inr rfl)
        · exact .inl rfl
      · exact .inr (.inl rfl)

theorem specOut_complete_iff (T : List Bytes) (P : Bytes) (pre : List Bytes) (f : Bytes) :
    specOut T P pre f = Out.complete P ↔ allSeen T (pre ++ [f]) ∧ ¬ allSeen T pre := by
  unfold specOut
  by_cases hall : allSeen T pre
  · simp [hall]
  · by_cases hnew : f ∈ T ∧ f ∉ pre
    · by_cases hall' : allSeen T (pre ++ [f]) <;> simp [hall, hnew, hall']
    · have hold := Classical.not_and_iff_not_or_not.1 hnew |>.imp_right Classical.not_not.1
      simp [hall, hnew, allSeen_old hold]

theorem specOuts_count_zero (T : List Bytes) (P : Bytes) (pre rest : List Bytes)
    (h : allSeen T pre) : (specOuts T P pre rest).count (Out.complete P) = 0 := by
  induction rest generalizing pre with
  | nil => rfl
  | cons f fs ih =>
    rw [specOuts, List.count_cons_of_ne fun e => ((specOut_complete_iff T P pre f).1 e).2 h]
    exact ih _ (allSeen_mono' _ h)

theorem specOuts_count (T : List Bytes) (P : Bytes) (pre rest : List Bytes) :
    (specOuts T P pre rest).count (Out.complete P) ≤ 1 := by
  induction rest generalizing pre with
  | nil => exact Nat.zero_le _
  | cons f fs ih =>
    rw [specOuts]
    by_cases h1 : specOut T P pre f = Out.complete P
    · rw [h1, List.count_cons_self,
        specOuts_count_zero T P _ fs ((specOut_complete_iff T P pre f).1 h1).1]
      exact Nat.le_refl _
    · rw [List.count_cons_of_ne h1]
      exact ih _

theorem specOuts_get (T : List Bytes) (P : Bytes) (pre rest : List Bytes) (j : Nat)
    (hj : j < rest.length) :
    (specOuts T P pre rest)[j]? = some (Out.complete P) ↔
      allSeen T (pre ++ rest.take (j + 1)) ∧ ¬ allSeen T (pre ++ rest.take j) := by
  induction rest generalizing pre j with
  | nil => cases hj
  | cons f fs ih =>
    cases j with
    | zero =>
      rw [specOuts, List.getElem?_cons_zero, Option.some.injEq, specOut_complete_iff, List.take_zero,
        List.append_nil]
      rfl
    | succ j =>
      rw [specOuts, List.getElem?_cons_succ, List.take_succ_cons, List.take_succ_cons,
        ih _ j (Nat.lt_of_succ_lt_succ hj), List.append_assoc, List.append_assoc]
      rfl

theorem specOuts_inorder (P : Bytes) {T : List Bytes} (hnd : T.Nodup) :
    ∀ (T2 T1 : List Bytes), T = T1 ++ T2 → T2 ≠ [] →
      specOuts T P T1 T2 = List.replicate (T2.length - 1) Out.stored ++ [Out.complete P] := by
  intro T2
  induction T2 with
  | nil => exact fun _ _ h => absurd rfl h
  | cons f fs ih =>
    intro T1 hT _
    obtain ⟨_, h2, h3⟩ := List.nodup_append.1 (hT ▸ hnd)
    have hfT : f ∈ T := hT ▸ List.mem_append_right _ (List.mem_cons_self ..)
    have hf1 : f ∉ T1 := fun h => h3 f h f (List.mem_cons_self ..) rfl
    rw [specOuts, specOut, if_neg fun h => hf1 (h f hfT), if_pos ⟨hfT, hf1⟩]
    cases fs with
    | nil =>
      rw [if_pos (show allSeen T (T1 ++ [f]) from fun g hg => hT ▸ hg)]
      rfl
    | cons g gs =>
      have hg : g ∈ f :: g :: gs := List.mem_cons_of_mem _ (List.mem_cons_self ..)
      rw [if_neg fun h : allSeen T (T1 ++ [f]) => ?_,
        ih (T1 ++ [f]) (by rw [hT, List.append_assoc]; rfl) (List.cons_ne_nil _ _)]
      · rfl
      · rcases List.mem_append.1 (h g (hT ▸ List.mem_append_right _ hg)) with h | h
        · exact h3 g h g hg rfl
        · exact (List.nodup_cons.1 h2).1 (List.mem_singleton.1 h ▸ List.mem_cons_self ..)

section
variable {seq L : Nat} {P d0 : Bytes} {T : List Bytes} (ok : SegOK seq L P d0 T)
include ok

theorem segment_inorder (hs : seq < 8) (r0 : Option Rec) (h0 : startsNew r0 seq (L :: d0) = true) :
    run r0 ((seq * 32 :: L :: d0) :: T) = (none, List.replicate T.length Out.stored ++ [Out.complete P]) := by
  have hnd : ((seq * 32 :: L :: d0) :: T).Nodup :=
    List.nodup_cons.2 ⟨head_not_mem ok _, ok.sorted.imp fun h e => by subst e; omega⟩
  rw [segment_run ok hs r0 h0 T fun f hf => .inl hf, stateOf,
    if_pos (show allSeen T _ from fun f hf => List.mem_cons_of_mem _ hf),
    specOuts_inorder P hnd _ [] rfl (List.cons_ne_nil _ _)]
  rfl

end

/-! ### the frames the encoder makes are such a message, whatever is appended to the last one -/

theorem restFrames_sorted (seq i : Nat) (ds : List Bytes) (h : i + ds.length ≤ 32) :
    (restFrames seq i ds).Pairwise (fun a b => key a < key b) := by
  induction ds generalizing i with
  | nil => exact .nil
  | cons c cs ih =>
    rw [List.length_cons] at h
    refine List.pairwise_cons.2 ⟨fun b hb => ?_, ih (i + 1) (by omega)⟩
    obtain ⟨j, d, rfl, hj, _⟩ := mem_restFrames hb
    rw [key, key, List.headD_cons, List.headD_cons, fc_of_byte _ _ (by omega), fc_of_byte _ _ (by omega)]
    omega

/-- data cut in ANY way into at most 31 pieces, each longer than the padding, so that none can be missed -/
theorem segOK_restFrames {seq : Nat} (hs : seq < 8) {P pad d0 : Bytes} {ds : List Bytes}
    (hcat : d0 ++ ds.flatten = P ++ pad) (hlen : ∀ d ∈ ds, pad.length < d.length) (hn : ds.length ≤ 31) :
    SegOK seq P.length P d0 (restFrames seq 1 ds) := by
  have htot : d0.length + ((restFrames seq 1 ds).map dlen).sum = P.length + pad.length := by
    rw [← List.length_append, ← hcat, List.length_append, List.length_flatten, ← restFrames_tail seq 1 ds,
      List.map_map, restFrames_tail]
    rfl
  refine ⟨fun f hf => ?_, restFrames_sorted seq 1 ds (by omega), by omega, fun f hf => ?_, ?_⟩
  · obtain ⟨j, d, rfl, hj, _⟩ := mem_restFrames hf
    have hj : 1 + j < 32 := by omega
    exact ⟨_, d, rfl, by rw [fc_of_byte _ _ hj]; omega, seq_of_byte _ _ hs hj⟩
  · obtain ⟨j, d, rfl, _, hd⟩ := mem_restFrames hf
    have := hlen d hd
    rw [htot]
    exact Nat.add_lt_add_left this _
  · rw [restFrames_tail, hcat, List.take_left']
    rfl

theorem framesPad_seg (seq : Nat) (P pad : Bytes) (hs : seq < 8) (hP : P.length ≤ 223)
    (hpad : ∀ f ∈ framesPad seq P pad, f.length ≤ 8) :
    ∃ T, framesPad seq P pad = (seq * 32 :: P.length :: (P ++ pad).take 6) :: T ∧
      SegOK seq P.length P ((P ++ pad).take 6) T := by
  by_cases h : P.drop 6 = []
  · have hle := List.drop_eq_nil_iff.1 h
    have hF : framesPad seq P pad = [seq * 32 :: P.length :: (P ++ pad)] := by
      rw [framesPad_of_concat (init := []) (by rw [frames, h, chunks_nil]; rfl), List.take_of_length_le hle]
      rfl
    have := hpad _ (hF ▸ List.mem_singleton_self _)
    rw [List.take_of_length_le (Nat.le_of_succ_le_succ (Nat.le_of_succ_le_succ this))]
    exact ⟨[], hF, segOK_restFrames (ds := []) hs (List.append_nil _) (fun _ h => nomatch h) (Nat.zero_le _)⟩
  · -- later frames: full chunks `init`, then `last ++ pad`.  At most 223 = 6 + 31·7 bytes keep them at 31, the most the
    -- 5-bit frame counter can number after the first frame; `hpad` bounds the padding by the room left in the last frame
    obtain ⟨init, last, e, hfull, h1, h2, hfl⟩ := chunks_eq_full_append_last (n := 7) (by decide) h
    have hF : framesPad seq P pad =
        (seq * 32 :: P.length :: P.take 6) :: restFrames seq 1 (init ++ [last ++ pad]) := by
      rw [framesPad_of_concat (init := (seq * 32 :: P.length :: P.take 6) :: restFrames seq 1 init)
        (by rw [frames, e, restFrames_append]; rfl), restFrames_append]
      rfl
    have hlen := congrArg List.length hfl
    rw [List.length_append, length_flatten_of_full hfull, List.length_drop] at hlen
    have hlast := hpad _ (hF ▸ List.mem_cons_of_mem _ (by
      rw [restFrames_append]
      exact List.mem_append_right _ (List.mem_cons_self ..)))
    rw [List.length_cons, List.length_append] at hlast
    rw [List.take_append_of_le_length (Nat.le_of_lt (Nat.lt_of_not_le (mt List.drop_eq_nil_iff.2 h)))]
    refine ⟨_, hF, segOK_restFrames (pad := pad) hs ?_ (fun d hd => ?_) ?_⟩
    · rw [List.flatten_append, List.flatten_singleton, ← List.append_assoc init.flatten, hfl,
        ← List.append_assoc, List.take_append_drop]
    · rcases List.mem_append.1 hd with hd | hd
      · rw [hfull d hd]
        omega
      · rw [List.mem_singleton.1 hd, List.length_append]
        omega
    · rw [List.length_append, List.length_singleton]
      omega

theorem head!_cons (a : Bytes) (l : List Bytes) : (a :: l).head! = a := rfl

end L04

/-! ### all frames in order, from any state in which the first frame starts a new message -/

theorem run_framesPad (seq : Nat) (P pad : Bytes) (hs : seq < 8) (hP : P.length ≤ 223)
    (hpad : ∀ f ∈ framesPad seq P pad, f.length ≤ 8)
    (r0 : Option Rec) (h0 : startsNew r0 seq (P.length :: (P ++ pad).take 6) = true) :
    run r0 (framesPad seq P pad) =
      (none, List.replicate ((frames seq P).length - 1) Out.stored ++ [Out.complete P]) := by
  obtain ⟨T, hF, ok⟩ := L04.framesPad_seg seq P pad hs hP hpad
  have hlen := framesPad_length seq P pad
  rw [hF] at hlen ⊢
  rw [L04.segment_inorder ok hs r0 h0, ← hlen]
  rfl

theorem run_frames_new (seq : Nat) (P : Bytes) (hs : seq < 8) (hP : P.length ≤ 223)
    (r0 : Option Rec) (h0 : startsNew r0 seq (P.length :: P.take 6) = true) :
    run r0 (frames seq P) =
      (none, List.replicate ((frames seq P).length - 1) Out.stored ++ [Out.complete P]) := by
  have := run_framesPad seq P [] hs hP
  rw [framesPad_nil, List.append_nil] at this
  exact this (frames_mem_length seq P) r0 h0

end N2k.Fast

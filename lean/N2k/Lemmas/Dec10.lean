/- helper lemmas for Props/C10.lean: the filtered decoder simulates the unfiltered one (`step_sim`, `run_sim`): both go the
same way through `core` except that the filtered one stops at `preOf` or `emit` where the PGN is not permitted; and the
configuration `mkConfig` builds drops exactly what the user's lists do not permit (`hyp_cfgOf`) -/
import N2k.Lemmas.DecStep
namespace N2k.Dec
namespace L10

/-! ### the same definitions as `permitted`, `unfiltered`, `visible`, `select` of Props/C10.lean, under the names the
statements of `step_sim`, `run_sim` and `selection` use -/

def perm (u : UserConfig) (pgn : Nat) (id : String) : Bool :=
  !(nums u.excludePgns).contains pgn && !(ids u.excludePgns).contains (lower id) &&
  (((nums u.includePgns).isEmpty && (ids u.includePgns).isEmpty) ||
    (nums u.includePgns).contains pgn || (ids u.includePgns).contains (lower id))

def unf (u : UserConfig) : UserConfig := { u with excludePgns := [], includePgns := [] }

def vis : Out → Option OutMsg
  | .msg m => some m
  | _ => none

def sel (u : UserConfig) (o : Option OutMsg) : Option OutMsg :=
  o.bind (fun m => if perm u m.msg.pgn m.msg.id then some m else none)

/-- the configuration with all PGN filters removed -/
def noFilter (cfg : Config) : Config :=
  { cfg with excludeNums := [], excludeIds := [], includeNums := [], includeIds := [], isoClaimFilter := false }

/-! ### where `blocked` is `!perm`, `emit` under `cfg` is `emit` under `noFilter cfg` selected by `perm` -/

theorem vis_halt (b : Bool) : vis (halt b) = none := by cases b <;> rfl

theorem vis_emit (cfg : Config) (i : Input) (m : Msg) (iso1 : Option IsoName) :
    vis (emit cfg i m iso1) =
      if blocked cfg i m then none else (applyUnits cfg.units m).map (fun m' => outMsg cfg i m m' iso1) := by
  unfold emit
  split
  · rfl
  · cases applyUnits cfg.units m <;> rfl

theorem blocked_noFilter (cfg : Config) (i : Input) (m : Msg) : blocked (noFilter cfg) i m = false := by
  simp [blocked, noFilter]

theorem sel_map_outMsg (u : UserConfig) (cfg : Config) (i : Input) (m : Msg) (iso1 : Option IsoName) :
    sel u ((applyUnits cfg.units m).map (fun m' => outMsg cfg i m m' iso1)) =
      if perm u m.pgn m.id then (applyUnits cfg.units m).map (fun m' => outMsg cfg i m m' iso1) else none := by
  cases h : applyUnits cfg.units m with
  | none => simp [sel]
  | some m' =>
    obtain ⟨h1, h2, _⟩ := applyUnits_frame _ _ _ h
    simp only [sel, Option.map_some, Option.bind_some, outMsg, h1, h2]

theorem outMsg_noFilter (cfg : Config) (i : Input) (m m' : Msg) (iso1 : Option IsoName) :
    outMsg (noFilter cfg) i m m' iso1 = outMsg cfg i m m' iso1 := rfl

theorem units_noFilter (cfg : Config) : (noFilter cfg).units = cfg.units := rfl

theorem emit_sim (u : UserConfig) (cfg : Config) (i : Input) (m : Msg) (iso1 : Option IsoName)
    (hb : blocked cfg i m = !perm u m.pgn m.id) :
    vis (emit cfg i m iso1) = sel u (vis (emit (noFilter cfg) i m iso1)) := by
  rw [vis_emit, vis_emit, blocked_noFilter, hb]
  simp only [outMsg_noFilter, units_noFilter, Bool.false_eq_true, if_false]
  rw [sel_map_outMsg]
  cases perm u m.pgn m.id <;> rfl

theorem emit_sel_none (u : UserConfig) (cfg : Config) (i : Input) (m : Msg) (iso1 : Option IsoName)
    (hp : perm u m.pgn m.id = false) : sel u (vis (emit cfg i m iso1)) = none := by
  rw [vis_emit]
  split
  · rfl
  · rw [sel_map_outMsg, hp]
    rfl

theorem preOf_noFilter {cfg : Config} {st : State} {i : Input} (h : pf cfg i.pgn = false) :
    preOf (noFilter cfg) st i = preOf cfg st i := by
  rw [preOf_eq, preOf_eq, h, show pf (noFilter cfg) i.pgn = false from Bool.and_false _]
  rfl

/-- same source map, same reassembly records for every stream the filtered decoder does not pre-filter -/
def Rel (cfg : Config) (stF stU : State) : Prop :=
  stF.sources = stU.sources ∧
  ∀ k : Fast.Key, pf cfg k.1 = false → Fast.lookup stF.table k = Fast.lookup stU.table k

/-- what the simulation needs to know about the layer and the configuration -/
structure Hyp (G : GenLayer) (u : UserConfig) (cfg : Config) : Prop where
  pgn_eq : ∀ pgn d m, G.decode pgn d = some (.ok m) → m.pgn = pgn
  pre : ∀ pgn id, pf cfg pgn = true → perm u pgn id = false
  blk : ∀ (i : Input) d m, pf cfg i.pgn = false → G.decode i.pgn d = some (.ok m) →
    blocked cfg i m = !perm u m.pgn m.id

theorem step_sim (G : GenLayer) (u : UserConfig) (cfg : Config) (H : Hyp G u cfg) (stF stU : State)
    (i : Input) (hR : Rel cfg stF stU) :
    Rel cfg (step G cfg stF i).1 (step G (noFilter cfg) stU i).1 ∧
    vis (step G cfg stF i).2 = sel u (vis (step G (noFilter cfg) stU i).2) := by
  obtain ⟨hs, ht⟩ := hR
  rw [step_eq, step_eq]
  unfold Rel
  dsimp only
  cases hpf : pf cfg i.pgn with
  | true =>
    have hnc : i.pgn ≠ isoClaimPgn := fun e => by simp [pf, e] at hpf
    have hT : ∀ k : Fast.Key, pf cfg k.1 = false →
        Fast.lookup (core G (noFilter cfg) stU i).1 k = Fast.lookup stU.table k := fun k hk =>
      step_table G _ stU i ▸ step_table_other G _ stU i k (fun e => by rw [e, hpf] at hk; cases hk)
    rw [core, preOf_pf hpf]
    refine ⟨⟨hs.trans ?_, fun k hk => (ht k hk).trans (hT k hk).symm⟩, ?_⟩
    · exact (core_sources_nonclaim _ (fun p m _ hd => by rw [H.pgn_eq _ _ _ hd]; exact hnc)).symm
    · rcases core_cases G (noFilter cfg) stU i with ⟨_, b, h⟩ | ⟨_, p, m, iso1, _, _, _, hd, _, hc⟩
      · rw [h, vis_halt]
        rfl
      · rw [hc]
        exact (emit_sel_none u _ i m iso1 (by rw [H.pgn_eq _ _ _ hd]; exact H.pre _ _ hpf)).symm
  | false =>
    obtain ⟨hr, hT⟩ := route_congr G i (ht _ hpf)
    rw [core, core, preOf_noFilter hpf, preOf_congr cfg (congrArg (lookupSrc · i.src) hs), hr, hs]
    cases preOf cfg stU i with
    | none => exact ⟨⟨rfl, ht⟩, rfl⟩
    | some iso =>
      have hT' := fun k hk => hT k (ht k hk)
      cases hd : decoded G (lookupSrc stU.sources i.src) i (some iso) (route G stU.table i).2 with
      | error b => exact ⟨⟨rfl, hT'⟩, by rw [vis_halt]; rfl⟩
      | ok x =>
        obtain ⟨_, _, _, _, hd, _⟩ := decoded_ok hd
        exact ⟨⟨rfl, hT'⟩, emit_sim u cfg i x.1 x.2.1 (H.blk i _ _ hpf hd)⟩

theorem run_sim (G : GenLayer) (u : UserConfig) (cfg : Config) (H : Hyp G u cfg) (h : List Input) :
    ∀ (stF stU : State), Rel cfg stF stU →
    ((run G cfg stF h).2.map vis = (run G (noFilter cfg) stU h).2.map (fun o => sel u (vis o))) ∧
    (run G cfg stF h).1.sources = (run G (noFilter cfg) stU h).1.sources := fun stF stU hR =>
  have := run_rel (fun s s' i h => step_sim G u cfg H s s' i h) h stF stU hR
  ⟨this.2, this.1.1⟩

/-! ### the configuration built by `mkConfig` satisfies the hypotheses -/

/-- `__init__` takes the address claim out of an exclude list when it filters claims itself: nothing else notices -/
theorem contains_ite_filter {α : Type} [DecidableEq α] (b : Bool) (l : List α) {c x : α} (h : x ≠ c) :
    (if b = true then l.filter (· ≠ c) else l).contains x = l.contains x := by
  cases b
  · rfl
  · rw [Bool.eq_iff_iff]
    simp [List.mem_filter, h]

/-- De Morgan on `perm`: not permitted = excluded, or an include list is given and does not list it -/
theorem not_perm (u : UserConfig) (pgn : Nat) (id : String) :
    (!perm u pgn id) = ((nums u.excludePgns).contains pgn || (ids u.excludePgns).contains (lower id) ||
      ((!(nums u.includePgns).isEmpty || !(ids u.includePgns).isEmpty) &&
        !(nums u.includePgns).contains pgn && !(ids u.includePgns).contains (lower id))) := by
  simp only [perm, Bool.not_and, Bool.not_or, Bool.not_not]

/-- `__init__` filters address claims exactly when the user's lists do not permit them -/
theorem fltOf_eq (u : UserConfig) {id : String} (hid : lower id = isoClaimId) :
    fltOf u = !perm u isoClaimPgn id := by
  rw [not_perm, hid]
  rfl

theorem pf_cfgOf (u : UserConfig) {pgn : Nat} (h : pgn ≠ isoClaimPgn) :
    pf (cfgOf u) pgn = ((nums u.excludePgns).contains pgn ||
      (!(nums u.includePgns).isEmpty && (ids u.includePgns).isEmpty && !(nums u.includePgns).contains pgn)) := by
  rw [pf, decide_eq_true h, Bool.true_and, show (cfgOf u).excludeNums.contains pgn = _ from contains_ite_filter _ _ h]
  rfl

theorem perm_false_of_pf_cfgOf (u : UserConfig) (pgn : Nat) (id : String) (h : pf (cfgOf u) pgn = true) :
    perm u pgn id = false := by
  have hne : pgn ≠ isoClaimPgn := fun e => by
    rw [pf, decide_eq_false (not_not_intro e)] at h
    cases h
  rw [pf_cfgOf u hne] at h
  rw [← Bool.not_eq_true', not_perm]
  have hf : (ids u.includePgns).isEmpty = true → (ids u.includePgns).contains (lower id) = false := by
    intro he
    rw [List.isEmpty_iff.1 he]
    rfl
  revert h hf
  generalize (nums u.excludePgns).contains pgn = a
  generalize (ids u.excludePgns).contains (lower id) = b
  generalize (nums u.includePgns).isEmpty = c
  generalize (ids u.includePgns).isEmpty = d
  generalize (nums u.includePgns).contains pgn = e
  generalize (ids u.includePgns).contains (lower id) = f
  revert a b c d e f
  decide

theorem blocked_cfgOf_claim (u : UserConfig) (i : Input) (m : Msg) (hi : i.pgn = isoClaimPgn)
    (hm : m.pgn = isoClaimPgn) (hid : lower m.id = isoClaimId) :
    blocked (cfgOf u) i m = !perm u m.pgn m.id := by
  rw [hm, ← fltOf_eq u hid, blocked, hm, hi, hid, decide_eq_true rfl, Bool.true_and]
  show (fltOf u || (cfgOf u).excludeIds.contains isoClaimId || _) = fltOf u
  cases hf : fltOf u with
  | true => rfl
  | false =>
    have he : (cfgOf u).excludeIds = ids u.excludePgns := by
      show (if fltOf u = true then _ else _) = _
      rw [hf]
      rfl
    rw [fltOf, Bool.or_eq_false_iff, Bool.or_eq_false_iff] at hf
    rw [he, hf.1.2]
    exact hf.2

theorem blocked_cfgOf_nonclaim (u : UserConfig) (i : Input) (m : Msg) (hi : i.pgn ≠ isoClaimPgn)
    (hm : m.pgn = i.pgn) (hid : lower m.id ≠ isoClaimId) (hpf : pf (cfgOf u) i.pgn = false) :
    blocked (cfgOf u) i m = !perm u m.pgn m.id := by
  rw [pf_cfgOf u hi, Bool.or_eq_false_iff] at hpf
  rw [not_perm, hm, hpf.1, blocked, hm, decide_eq_false hi, Bool.false_and,
    show (cfgOf u).excludeIds.contains (lower m.id) = _ from contains_ite_filter _ _ hid]
  rfl

theorem hyp_cfgOf (G : GenLayer) (u : UserConfig)
    (h1 : ∀ pgn d m, G.decode pgn d = some (.ok m) → m.pgn = pgn)
    (h2 : ∀ d m, G.decode isoClaimPgn d = some (.ok m) → lower m.id = isoClaimId)
    (h3 : ∀ pgn d m, G.decode pgn d = some (.ok m) → lower m.id = isoClaimId → pgn = isoClaimPgn) :
    Hyp G u (cfgOf u) where
  pgn_eq := h1
  pre := fun pgn id h => perm_false_of_pf_cfgOf u pgn id h
  blk := by
    intro i d m hpf hd
    have hm := h1 _ d m hd
    by_cases hi : i.pgn = isoClaimPgn
    · rw [hi] at hd
      exact blocked_cfgOf_claim u i m hi (by rw [hm, hi]) (h2 d m hd)
    · exact blocked_cfgOf_nonclaim u i m hi hm (fun e => hi (h3 _ d m hd e)) hpf

/-- the selection theorem, in the vocabulary of this file -/
theorem selection (G : GenLayer) (u : UserConfig)
    (h1 : ∀ pgn d m, G.decode pgn d = some (.ok m) → m.pgn = pgn)
    (h2 : ∀ d m, G.decode isoClaimPgn d = some (.ok m) → lower m.id = isoClaimId)
    (h3 : ∀ pgn d m, G.decode pgn d = some (.ok m) → lower m.id = isoClaimId → pgn = isoClaimPgn)
    (cfg cfg0 : Config) (hc : mkConfig u = some cfg) (hc0 : mkConfig (unf u) = some cfg0) (h : List Input) :
    ((run G cfg {} h).2.map vis = (run G cfg0 {} h).2.map (fun o => sel u (vis o))) ∧
    (run G cfg {} h).1.sources = (run G cfg0 {} h).1.sources := by
  rw [mkConfig_some hc, mkConfig_some hc0]
  -- `cfgOf (unf u)` is `noFilter (cfgOf u)` by unfolding
  exact run_sim G u (cfgOf u) (hyp_cfgOf G u h1 h2 h3) h {} {} ⟨rfl, fun _ _ => rfl⟩

end L10
end N2k.Dec

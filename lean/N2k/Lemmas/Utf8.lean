/- ASCII characters among the UTF-8 bytes of a string (core Lean only). -/
namespace N2k

/-- an ASCII byte occurs in the UTF-8 encoding of a character only as that character itself: the bytes of the longer
forms are all ≥ 0x80 -/
theorem mem_utf8EncodeChar_ascii (c : Char) (b : UInt8) (hb : b.toNat < 128) :
    b ∈ String.utf8EncodeChar c ↔ c.toNat = b.toNat := by
  unfold String.utf8EncodeChar
  simp only [show c.val.toNat = c.toNat from rfl]
  repeat' split
  all_goals simp only [List.mem_cons, List.not_mem_nil, or_false, ← UInt8.toNat_inj, UInt8.toNat_ofNat']
  all_goals omega

/-- hence an ASCII character can be looked for among the bytes, which the kernel reads off a string literal far more
cheaply than it decodes them (`String.toList` is quadratic there: 154 M heartbeats for the 418 definition ids against 28 M) -/
theorem contains_ascii_bytes (s : String) (c : Char) (hc : c.toNat < 128) :
    s.toList.contains c = s.toByteArray.data.toList.contains (UInt8.ofNat c.toNat) := by
  rw [← String.utf8Encode_toList, List.utf8Encode, List.toList_data_toByteArray, Bool.eq_iff_iff]
  simp only [List.contains_iff_mem, List.mem_flatMap]
  have hb : (UInt8.ofNat c.toNat).toNat = c.toNat := by rw [UInt8.toNat_ofNat']; omega
  constructor
  · exact fun h => ⟨c, h, (mem_utf8EncodeChar_ascii c _ (by omega)).2 hb.symm⟩
  · rintro ⟨d, hd, hm⟩
    rw [mem_utf8EncodeChar_ascii d _ (by omega), hb] at hm
    rwa [← Char.toNat_inj.1 hm]

end N2k

/- The connect path of the client LTS: the recovery runs and the reconnect task (C13). -/
import N2k.Lemmas.ClientStep
namespace N2k.Client

/-! ### the recovery runs are accepted: the retry loop by induction on the number of refusals, what precedes and
follows it run forwards event by event -/

/-- the connect holding (or about to take) the lock is ready for attempt number `j + 1`; the call was made by the
application (`.connCall`) or by the reconnect task (`.reconnCall`) -/
def Ready (s : CS) (j : Nat) : Prop :=
  s.st = .disconnected ∧ s.calls > 0 ∧
  ((s.connActive = true ∧ s.implPending = false ∧ s.lastFailed = true ∧ s.slept = true ∧ s.tryNo = j) ∨
   (s.connActive = false ∧ (s.prev = some .connCall ∨ s.prev = some .reconnCall) ∧ j = 0))

/-- attempt number `j` is under way -/
def Trying (s : CS) (j : Nat) : Prop :=
  s.st = .disconnected ∧ s.calls > 0 ∧ s.connActive = true ∧ s.implPending = true ∧ s.tryNo = j

/-- what the retry loop leaves alone -/
def kept (s : CS) := (s.nextConn, s.statusLog, s.recv, s.reconn, s.reconnCalled, s.writerClosed)

/-- both ways of being ready lead to the same kind of state: the case split is made here, once -/
theorem ready_implStart {s : CS} {j : Nat} (h : Ready s j) :
    ∃ t, step s .implStart = some t ∧ Trying t (j + 1) ∧ kept t = kept s := by
  dsimp only [step, stepCore]
  obtain ⟨h1, h2, ⟨h3, h4, h5, h6, h7⟩ | ⟨h3, h4 | h4, h5⟩⟩ := h <;>
    simp [guard, Trying, kept, *]

theorem ready_block {s : CS} {j : Nat} (h : Ready s j) :
    ∃ s', runTrace s [.implStart, .implFail, .sleep (backoff (j + 1))] = some s' ∧ Ready s' (j + 1) ∧ kept s' = kept s := by
  obtain ⟨t, h1, ⟨a1, a2, a3, a4, a5⟩, hk⟩ := ready_implStart h
  -- the unifier must not look into the delay while it finds the arm of `stepCore`
  generalize hms : backoff (j + 1) = ms
  refine ⟨_, runTrace_cons.2 ⟨t, h1, run_guard rfl a4 (run_guard rfl ?_ rfl)⟩,
    ⟨a1, a2, .inl ⟨a3, rfl, rfl, rfl, a5⟩⟩, hk⟩
  exact decide_eq_true (hms ▸ congrArg backoff a5.symm)

theorem ready_loop {s : CS} (k : Nat) (h : Ready s 0) :
    ∃ s', runTrace s ((List.range k).flatMap fun i => [Ev.implStart, .implFail, .sleep (backoff (i + 1))]) = some s' ∧
      Ready s' k ∧ kept s' = kept s := by
  induction k with
  | zero => exact ⟨s, rfl, h, rfl⟩
  | succ k ih =>
    obtain ⟨t, h1, h2, a⟩ := ih
    obtain ⟨t', h1', h2', b⟩ := ready_block h2
    refine ⟨t', ?_, h2', b.trans a⟩
    simp [List.range_succ, List.flatMap_append, runTrace_append, h1, h1']

/-- the accepted attempt, up to the return of connect() -/
theorem ready_connects {s : CS} {j : Nat} (h : Ready s j) :
    ∃ u, runTrace s [.implStart, .implOk s.nextConn, .status .connected, .connReturn] = some u ∧
      u.st = .connected ∧ u.conn = some s.nextConn ∧ u.statusLog = s.statusLog ++ [.connected] ∧
      u.prev = some .connReturn ∧ u.recv = s.recv ∧ u.reconn = s.reconn ∧ u.reconnCalled = s.reconnCalled ∧
      u.writerClosed = s.writerClosed := by
  obtain ⟨t, h1, ⟨a1, a2, a3, a4, a5⟩, hk⟩ := ready_implStart h
  simp only [kept, Prod.mk.injEq] at hk
  obtain ⟨k1, k2, k3, k4, k5, k6⟩ := hk
  refine ⟨_, runTrace_cons.2 ⟨t, h1, run_guard rfl ?_ (run_guard rfl ?_ (run_guard rfl ?_ rfl))⟩,
    rfl, rfl, congrArg (· ++ _) k2, rfl, k3, k4, k5, k6⟩
  · simp [a4, k1]
  · simp [a1, a3]
  · simp [a2, a3]

theorem step_envEof {s : CS} {c : Nat} (hc : s.conn = some c) :
    step s (.envEof c) =
      some { s with faults := s.faults + 1, faulted := c :: s.faulted, prev := some (.envEof c) } := by
  dsimp only [step, stepCore]
  rw [if_pos hc]
  rfl

/-- the fault is seen, the link is shut, DISCONNECTED is reported, the receive task ends, the reconnect task starts, waits and
calls connect(): the state is then ready for the first attempt -/
theorem fault_prefix {s : CS} {c : Nat} (hst : s.st = .connected) (hc : s.conn = some c) (hr : s.recv = some c)
    (ha : s.connActive = false) (hre : s.reconn = 0) :
    ∃ t, runTrace s [.envEof c, .writerClose c, .status .disconnected, .recvExit c false, .reconnStart, .reconnSleep 500,
        .reconnCall] = some t ∧ Ready t 0 ∧ t.nextConn = s.nextConn ∧ t.statusLog = s.statusLog ++ [.disconnected] ∧
      t.recv = none ∧ t.reconn = 1 ∧ t.reconnCalled = true ∧ c ∈ t.writerClosed := by
  refine ⟨_, runTrace_cons.2 ⟨_, step_envEof hc, run_guard rfl ?_ (run_guard rfl ?_ (run_guard rfl ?_
    (run_guard rfl ?_ (run_guard rfl ?_ (run_guard rfl ?_ rfl)))))⟩,
    ⟨rfl, Nat.succ_pos _, .inr ⟨ha, .inr rfl, rfl⟩⟩, rfl, rfl, rfl, rfl, rfl, List.mem_cons_self⟩
  · simp [hc]
  · simp [hst, hc]
  · simp [hr]
  · simp [hre]
  · simp
  · simp

/-! ### the reconnect task: at most one is alive, and each of its connect() calls has a wait of its own -/

theorem step_reconnCall {s s' : CS} (h : step s .reconnCall = some s') :
    s.reconn = 1 ∧ s.reconnSlept = true ∧ s'.reconn = 1 ∧ s'.reconnSlept = false := by
  obtain ⟨hg, rfl⟩ := step_guard h
  simp only [Bool.and_eq_true, decide_eq_true_eq] at hg
  exact ⟨hg.1, hg.2, hg.1, rfl⟩

theorem Ev.isReconn_cases {e : Ev} (h : e.isReconn = true) :
    e = .reconnStart ∨ (∃ ms, e = .reconnSleep ms) ∨ e = .reconnCall ∨ e = .reconnEnd := by
  cases e <;> first | (cases h; done) | simp

theorem reconnSlept_rises {s s' : CS} {e : Ev} (h : step s e = some s') (h0 : s.reconnSlept = false)
    (h1 : s'.reconnSlept = true) : ∃ ms, e = .reconnSleep ms ∧ 500 ≤ ms := by
  cases hc : e.isReconn with
  | false =>
    rw [((step_frame h).reconn hc).2, h0] at h1
    cases h1
  | true =>
    obtain rfl | ⟨ms, rfl⟩ | rfl | rfl := Ev.isReconn_cases hc <;> obtain ⟨hg, rfl⟩ := step_guard h
    · cases h1
    · simp only [Bool.and_eq_true, decide_eq_true_eq] at hg
      exact ⟨ms, rfl, hg.2⟩
    · cases h1
    · rw [h0] at h1
      cases h1

theorem sleep_before_call {es : List Ev} {s s' : CS} {m : Nat} (hs : s.reconnSlept = false)
    (h : runTrace s es = some s') (hm : es[m]? = some .reconnCall) :
    ∃ k ms, k < m ∧ es[k]? = some (.reconnSleep ms) ∧ 500 ≤ ms := by
  induction es generalizing s m with
  | nil => simp at hm
  | cons e es ih =>
    obtain ⟨t, h1, h2⟩ := runTrace_cons.1 h
    cases m with
    | zero =>
      obtain rfl : e = .reconnCall := by simpa using hm
      rw [(step_reconnCall h1).2.1] at hs
      cases hs
    | succ m =>
      cases hsl : t.reconnSlept with
      | false =>
        obtain ⟨k, ms, hk, he, hms⟩ := ih hsl h2 hm
        exact ⟨k + 1, ms, Nat.succ_lt_succ hk, he, hms⟩
      | true =>
        obtain ⟨ms, rfl, hms⟩ := reconnSlept_rises h1 hs hsl
        exact ⟨0, ms, Nat.succ_pos _, rfl, hms⟩

theorem step_reconn_le {s s' : CS} {e : Ev} (h : step s e = some s') (hs : s.reconn ≤ 1) : s'.reconn ≤ 1 := by
  cases hc : e.isReconn with
  | false =>
    rw [((step_frame h).reconn hc).1]
    exact hs
  | true =>
    obtain rfl | ⟨ms, rfl⟩ | rfl | rfl := Ev.isReconn_cases hc <;> obtain ⟨-, rfl⟩ := step_guard h
    · exact Nat.le_refl 1
    · exact hs
    · exact hs
    · exact Nat.zero_le 1

theorem L13.runTrace_reconn_le {s s' : CS} {evs : List Ev} (hs : s.reconn ≤ 1) (h : runTrace s evs = some s') :
    s'.reconn ≤ 1 :=
  runTrace_preserves step_reconn_le h hs

/-- what an accepted trace `evs` ending in `s` says about a live reconnect task: the trace splits at its start — no later
start — with its ≥ 500 ms wait after that point once it has waited -/
def ReconnInv (evs : List Ev) (s : CS) : Prop :=
  s.reconn = 1 → ∃ pre post, evs = pre ++ Ev.reconnStart :: post ∧ Ev.reconnStart ∉ post ∧
    (s.reconnSlept = true → ∃ ms, 500 ≤ ms ∧ Ev.reconnSleep ms ∈ post)

theorem reconnInv_step {evs : List Ev} {s s' : CS} {e : Ev} (h : step s e = some s') (hi : ReconnInv evs s) :
    ReconnInv (evs ++ [e]) s' := by
  have ext : e ≠ .reconnStart → s.reconn = 1 →
      (s'.reconnSlept = true → s.reconnSlept = true ∨ ∃ ms, 500 ≤ ms ∧ e = .reconnSleep ms) →
      ∃ pre post, evs ++ [e] = pre ++ Ev.reconnStart :: post ∧ Ev.reconnStart ∉ post ∧
        (s'.reconnSlept = true → ∃ ms, 500 ≤ ms ∧ Ev.reconnSleep ms ∈ post) := by
    intro hne hs hsl
    obtain ⟨pre, post, rfl, hp, hw⟩ := hi hs
    refine ⟨pre, post ++ [e], by simp, ?_, fun h2 => ?_⟩
    · simp only [List.mem_append, List.mem_singleton, not_or]
      exact ⟨hp, fun h3 => hne h3.symm⟩
    · rcases hsl h2 with h3 | ⟨ms, h3, rfl⟩
      · obtain ⟨ms, h4, h5⟩ := hw h3
        exact ⟨ms, h4, List.mem_append_left _ h5⟩
      · exact ⟨ms, h3, by simp⟩
  intro h1
  cases hc : e.isReconn with
  | false =>
    obtain ⟨h2, h3⟩ := (step_frame h).reconn hc
    exact ext (fun he => by rw [he] at hc; cases hc) (h2 ▸ h1) (fun h4 => .inl (h3 ▸ h4))
  | true =>
    obtain rfl | ⟨ms, rfl⟩ | rfl | rfl := Ev.isReconn_cases hc <;> obtain ⟨hg, rfl⟩ := step_guard h
    · exact ⟨evs, [], rfl, nofun, nofun⟩
    · simp only [Bool.and_eq_true, decide_eq_true_eq] at hg
      exact ext nofun hg.1 (fun _ => .inr ⟨ms, hg.2, rfl⟩)
    · exact ext nofun h1 nofun
    · cases h1

theorem reconnInv_init {evs : List Ev} {s : CS} (h : runTrace init evs = some s) : ReconnInv evs s :=
  runTrace_preserves_prefix (P := ReconnInv) reconnInv_step (pre := []) h nofun

end N2k.Client

/- The stream readers of the TCP clients as framers; the line reader with its limit (`feedLim`) refines the
byte-at-a-time automaton (C12) -/
import N2k.Lemmas.Framer
namespace N2k.Reader

/-- `readexactly(13)` -/
def framer13 : Framer where
  cut b := if b.length < 13 then none else some (13, some (b.take 13))
  min := 13
  min_pos := by decide
  cut_min := by
    intro c n o h
    split at h
    · cases h
    · cases h
      exact ⟨Nat.le_refl _, by omega⟩
  cut_append := by
    intro c r y h
    split at h
    · cases h
    · rw [← h, if_neg (by rw [List.length_append]; omega), List.take_append_of_le_length (by omega)]

theorem feed13_eq_run (buf data : Bytes) : feed13 buf data = framer13.run (buf ++ data) := by
  refine framer13.loop_eq_run (loop := take13) (fun n b acc => ?_) [] (by show _ < 13 * _; omega)
  rw [take13]
  dsimp only [framer13, id]
  split <;> rfl

theorem framer13_whole {p : Bytes} (hp : p.length = 13) : framer13.Whole p := fun rest =>
  ⟨rfl, by show (if _ then _ else _) = _; rw [if_neg (by rw [List.length_append]; omega), hp, List.take_left' hp]⟩

theorem findNl_eq (b : Bytes) : findNl b = b.findIdx? (· == 10) := by
  induction b with
  | nil => rfl
  | cons a r ih =>
    rw [findNl, List.findIdx?_cons, ih]
    by_cases h : a = 10 <;> simp [h]

theorem findNl_lt {b : Bytes} {i : Nat} (h : findNl b = some i) : i < b.length := by
  rw [findNl_eq, List.findIdx?_eq_some_iff_getElem] at h
  exact h.1

theorem findNl_eq_none {b : Bytes} : findNl b = none ↔ 10 ∉ b := by
  rw [findNl_eq, List.findIdx?_eq_none_iff]
  exact ⟨fun h hm => by simpa using h 10 hm, fun h x hx => by simpa using fun (hx' : x = 10) => h (hx' ▸ hx)⟩

theorem findNl_append_some {x : Bytes} (y : Bytes) {i : Nat} (h : findNl x = some i) :
    findNl (x ++ y) = some i := by
  rw [findNl_eq] at *
  rw [List.findIdx?_append, h]
  rfl

theorem findNl_body {body : Bytes} (rest : Bytes) (h : 10 ∉ body) :
    findNl (body ++ 10 :: rest) = some body.length := by
  rw [findNl_eq, List.findIdx?_append, ← findNl_eq, findNl_eq_none.2 h, List.findIdx?_cons]
  simp

/-- `readline()` -/
def lineFramer : Framer where
  cut b := (findNl b).map fun i => (i + 1, some (b.take (i + 1)))
  min := 1
  min_pos := by decide
  cut_min := by
    intro c n o h
    cases hf : findNl c with
    | none =>
      rw [hf] at h
      cases h
    | some i =>
      rw [hf] at h
      cases h
      have := findNl_lt hf
      omega
  cut_append := by
    intro c r y h
    cases hf : findNl c with
    | none =>
      rw [hf] at h
      cases h
    | some i =>
      have := findNl_lt hf
      rw [hf] at h
      rw [← h, findNl_append_some y hf, Option.map_some, Option.map_some,
        List.take_append_of_le_length (by omega)]

theorem feedLines_eq_run (buf data : Bytes) : feedLines buf data = lineFramer.run (buf ++ data) := by
  refine lineFramer.loop_eq_run (loop := takeLines) (fun n b acc => ?_) [] (by show _ < 1 * _; omega)
  rw [takeLines]
  dsimp only [lineFramer, id]
  cases findNl b <;> rfl

theorem lineFramer_waits {b : Bytes} (h : 10 ∉ b) : lineFramer.run b = (b, []) :=
  lineFramer.run_none (by
    show Option.map _ (findNl b) = none
    rw [findNl_eq_none.2 h]
    rfl)

theorem lineFramer_whole {body : Bytes} (h : 10 ∉ body) : lineFramer.Whole (body ++ [10]) := fun rest => by
  refine ⟨rfl, ?_⟩
  show Option.map _ (findNl _) = _
  rw [List.append_assoc, List.singleton_append, findNl_body _ h, Option.map_some, List.length_append,
    ← List.singleton_append, ← List.append_assoc, List.take_left' (by simp)]
  rfl


/-- nothing to do until more data arrives: no newline in the buffer and not more than `limit` bytes -/
def Stable (limit : Nat) (st : LState) : Prop := 10 ∉ st.buf ∧ st.buf.length ≤ limit

/-- code-shaped state vs automaton state: the same mode, and outside an overlong line the same line so far (inside one, how much of it the
reader still holds depends on where the reads fell; it is dropped either way) -/
def Rel (s a : LState) : Prop := s.skip = a.skip ∧ (s.skip = false → s.buf = a.buf)

theorem autoByte_acc (limit : Nat) (st : LState) (acc : List Bytes) (b : Nat) :
    autoByte limit (st, acc) b
      = ((autoByte limit (st, []) b).1, acc ++ (autoByte limit (st, []) b).2) := by
  obtain ⟨buf, skip⟩ := st
  by_cases hb : b = 10 <;> cases skip <;> by_cases hc : limit < buf.length + 1 <;> simp [autoByte, hb, hc]

theorem foldl_autoByte_acc (limit : Nat) (st : LState) (acc : List Bytes) (data : Bytes) :
    data.foldl (autoByte limit) (st, acc)
      = ((autoRun limit st data).1, acc ++ (autoRun limit st data).2) := by
  unfold autoRun
  induction data generalizing st acc with
  | nil => simp
  | cons b rest ih =>
    simp only [List.foldl_cons]
    rw [autoByte_acc, ih, ih (autoByte limit (st, []) b).1 (autoByte limit (st, []) b).2]
    simp

theorem autoRun_append (limit : Nat) (st : LState) (x y : Bytes) :
    autoRun limit st (x ++ y)
      = ((autoRun limit (autoRun limit st x).1 y).1,
          (autoRun limit st x).2 ++ (autoRun limit (autoRun limit st x).1 y).2) := by
  conv =>
    lhs
    unfold autoRun
  rw [List.foldl_append, ← foldl_autoByte_acc]
  rfl

theorem autoByte_keep {limit b : Nat} (hb : b ≠ 10) (buf : Bytes) :
    autoByte limit (⟨buf, false⟩, []) b
      = (if limit < buf.length + 1 then ⟨[], true⟩ else ⟨buf ++ [b], false⟩, []) := by
  simp only [autoByte, if_neg hb, Bool.false_eq_true, if_false, List.length_append, List.length_cons, List.length_nil]
  split <;> rfl

theorem autoRun_skip (limit : Nat) (buf : Bytes) {body : Bytes} (hb : 10 ∉ body) :
    autoRun limit ⟨buf, true⟩ body = (⟨buf, true⟩, []) := by
  induction body with
  | nil => rfl
  | cons b rest ih =>
    rw [List.mem_cons, not_or] at hb
    rw [autoRun, List.foldl_cons, autoByte, if_neg (Ne.symm hb.1)]
    exact ih hb.2

theorem autoRun_fits {limit : Nat} {buf body : Bytes} (hb : 10 ∉ body) (h : buf.length + body.length ≤ limit) :
    autoRun limit ⟨buf, false⟩ body = (⟨buf ++ body, false⟩, []) := by
  induction body generalizing buf with
  | nil =>
    rw [List.append_nil]
    rfl
  | cons b rest ih =>
    rw [List.mem_cons, not_or] at hb
    rw [List.length_cons] at h
    rw [autoRun, List.foldl_cons, autoByte_keep (Ne.symm hb.1), if_neg (by omega), List.append_cons buf b rest]
    exact ih (buf := buf ++ [b]) hb.2 (by simp; omega)

theorem autoRun_over {limit : Nat} {buf body : Bytes} (hb : 10 ∉ body) (hl : buf.length ≤ limit)
    (h : limit < buf.length + body.length) : autoRun limit ⟨buf, false⟩ body = (⟨[], true⟩, []) := by
  induction body generalizing buf with
  | nil => exact absurd h (Nat.not_lt.2 hl)
  | cons b rest ih =>
    rw [List.mem_cons, not_or] at hb
    rw [List.length_cons] at h
    rw [autoRun, List.foldl_cons, autoByte_keep (Ne.symm hb.1)]
    by_cases hc : limit < buf.length + 1
    · rw [if_pos hc]
      exact autoRun_skip limit [] hb.2
    · rw [if_neg hc]
      exact ih (buf := buf ++ [b]) hb.2 (by simp; omega) (by simp; omega)

theorem autoRun_line (limit : Nat) (a : LState) {body : Bytes} (hb : 10 ∉ body) (hl : a.buf.length ≤ limit) :
    autoRun limit a (body ++ [10])
      = ({ buf := [], skip := false },
          if a.skip = false ∧ a.buf.length + body.length ≤ limit then [a.buf ++ body ++ [10]] else []) := by
  obtain ⟨buf, skip⟩ := a
  dsimp only at hl ⊢
  rw [autoRun_append]
  cases skip with
  | true =>
    rw [autoRun_skip _ _ hb]
    simp [autoRun, autoByte]
  | false =>
    by_cases h2 : buf.length + body.length ≤ limit
    · rw [autoRun_fits hb h2]
      simp [autoRun, autoByte, h2]
    · rw [autoRun_over hb hl (by omega)]
      simp [autoRun, autoByte, h2]


theorem stepLim_line {limit : Nat} {pre : Bytes} (rest : Bytes) (k : Bool) (h : 10 ∉ pre) :
    stepLim limit ⟨pre ++ 10 :: rest, k⟩ =
      if limit < pre.length then some (⟨10 :: rest, true⟩, none)
      else if k then some (⟨rest, false⟩, none) else some (⟨rest, false⟩, some (pre ++ [10])) := by
  rw [stepLim, findNl_body rest h]
  dsimp only
  rw [List.drop_left, show pre ++ 10 :: rest = (pre ++ [10]) ++ rest by simp, List.drop_left' (by simp),
    List.take_left' (by simp)]

theorem stable_nil (limit : Nat) (k : Bool) : Stable limit ⟨[], k⟩ := ⟨List.not_mem_nil, Nat.zero_le _⟩

theorem autoRun_overlong {limit : Nat} {sb : Bytes} {k : Bool} {a : LState} {body : Bytes} (hr : Rel ⟨sb, k⟩ a)
    (ha : Stable limit a) (hb : 10 ∉ body) (hl : limit < sb.length + body.length) :
    ∃ a', autoRun limit a body = (a', []) ∧ a'.skip = true ∧ Stable limit a' := by
  obtain ⟨ab, ak⟩ := a
  obtain ⟨rfl, hbuf⟩ := hr
  cases k with
  | false =>
    obtain rfl := hbuf rfl
    exact ⟨_, autoRun_over hb ha.2 hl, rfl, stable_nil ..⟩
  | true => exact ⟨_, autoRun_skip _ _ hb, rfl, ha⟩

theorem drainLim_refines (limit fuel : Nat) (s a : LState) (data : Bytes) (acc : List Bytes)
    (hr : Rel s a) (hs : Stable limit s) (ha : Stable limit a) (hlen : (s.buf ++ data).length < fuel) :
    (drainLim limit fuel { s with buf := s.buf ++ data } acc).2 = acc.reverse ++ (autoRun limit a data).2 ∧
    Rel (drainLim limit fuel { s with buf := s.buf ++ data } acc).1 (autoRun limit a data).1 ∧
    Stable limit (drainLim limit fuel { s with buf := s.buf ++ data } acc).1 ∧
    Stable limit (autoRun limit a data).1 := by
  induction fuel generalizing s a data acc with
  | zero => cases hlen
  | succ n ih =>
    obtain ⟨sb, k⟩ := s
    obtain ⟨ab, ak⟩ := a
    have hr' := hr
    obtain ⟨hk, hbuf⟩ := hr'
    dsimp only at hk hbuf hlen ⊢
    subst hk
    rw [List.length_append] at hlen
    rw [drainLim]
    -- One call of the client on `sb ++ data`, then the induction hypothesis on what is left.  `data` has no newline (over
    -- the limit: emptied, skipping from now on / it fits: the loop waits), or its first newline ends `sb ++ body`
    -- (beyond the limit: an overrun, skipping / within it: the line is handed on unless skipping).
    by_cases hd : 10 ∉ data
    · have hmem : 10 ∉ sb ++ data := fun h => (List.mem_append.1 h).elim hs.1 hd
      rw [stepLim, findNl_eq_none.2 hmem, List.length_append]
      by_cases hl : limit < sb.length + data.length
      · obtain ⟨a', ha', hsk, hsa⟩ := autoRun_overlong hr ha hd hl
        rw [if_pos hl, ha']
        exact ih ⟨[], true⟩ a' [] acc ⟨hsk.symm, nofun⟩ (stable_nil ..) hsa (by simp; omega)
      · rw [if_neg hl]
        have hst : Stable limit ⟨sb ++ data, k⟩ := ⟨hmem, by rw [List.length_append]; omega⟩
        cases k with
        | false =>
          obtain rfl := hbuf rfl
          rw [autoRun_fits hd (by omega)]
          exact ⟨(List.append_nil _).symm, ⟨rfl, fun _ => rfl⟩, hst, hst⟩
        | true =>
          rw [autoRun_skip _ _ hd]
          exact ⟨(List.append_nil _).symm, ⟨rfl, nofun⟩, hst, ha⟩
    · obtain ⟨body, rest, rfl, hb⟩ := List.eq_append_cons_of_mem (Decidable.not_not.1 hd)
      rw [List.length_append, List.length_cons] at hlen
      rw [← List.append_assoc, stepLim_line rest k (fun h => (List.mem_append.1 h).elim hs.1 hb), List.length_append]
      by_cases hl : limit < sb.length + body.length
      · obtain ⟨a', ha', hsk, hsa⟩ := autoRun_overlong hr ha hb hl
        rw [if_pos hl, autoRun_append, ha']
        exact ih ⟨[], true⟩ a' (10 :: rest) acc ⟨hsk.symm, nofun⟩ (stable_nil ..) hsa (by simp; omega)
      · rw [if_neg hl, show body ++ 10 :: rest = (body ++ [10]) ++ rest by simp, autoRun_append,
          autoRun_line limit _ hb ha.2]
        have h0 := fun acc => ih ⟨[], false⟩ ⟨[], false⟩ rest acc ⟨rfl, fun _ => rfl⟩ (stable_nil ..) (stable_nil ..)
          (by simp; omega)
        cases k with
        | false =>
          obtain rfl := hbuf rfl
          obtain ⟨h1, h⟩ := h0 ((sb ++ body ++ [10]) :: acc)
          rw [if_neg Bool.false_ne_true, if_pos ⟨rfl, Nat.le_of_not_lt hl⟩]
          exact ⟨h1.trans (by rw [List.reverse_cons, List.append_assoc]), h⟩
        | true =>
          rw [if_pos rfl, if_neg (by simp)]
          exact h0 acc

theorem feedAllLim_cons (limit : Nat) (st : LState) (d : Bytes) (ds : List Bytes) :
    feedAllLim limit st (d :: ds)
      = ((feedAllLim limit (feedLim limit st d).1 ds).1,
          (feedLim limit st d).2 ++ (feedAllLim limit (feedLim limit st d).1 ds).2) :=
  rfl

end N2k.Reader

/-
A non-fallback selection of `Spec.select` is the first match among the non-fallback definitions (`select_nonfallback`),
read by Props/C08.lean.
-/
import N2k.Model.Spec
import N2k.Model.Interp
namespace N2k
open N2k.Spec

theorem select_nonfallback (g : List PgnDef) (data : Nat) (p : PgnDef)
    (h : select g data = some p) (hf : p.fallback = false) :
    (g.filter (fun q => !q.fallback)).find? (fun q => matchesDef q data) = some p := by
  unfold select at h
  split at h
  · rename_i q hq
    rw [hq, h]
  · have hm := List.mem_of_getLast? h
    simp [List.mem_filter, hf] at hm

end N2k

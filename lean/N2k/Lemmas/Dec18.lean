/- helper lemmas for Props/C18.lean: the three approximations the accuracy bounds start from; removing the unit
preferences from the configuration changes `emit` only (the frame lemmas `applyUnits_frame` … are in DecStep.lean) -/
import N2k.Lemmas.Approx
import N2k.Lemmas.DecStep

namespace N2k.Dec

theorem _root_.N2k.Approx.toF {k B : ℚ} (hk : rne k = k) (h : |k| ≤ B) : Approx (toF (.flt k)) k 0 B :=
  ⟨by rw [Dec.toF, Num.toRat, hk, sub_self, abs_zero], h⟩

theorem _root_.N2k.Approx.lit {m e : ℤ} {q B : ℚ} (hq : (m:ℚ) * pow10 e = q) (h : |q| ≤ B) :
    Approx (lit m e) q ((B + 1) / 2 ^ 53) B :=
  hq ▸ .const (hq ▸ h)

-- 274 is any bound of 273.15: the magnitude only enters the rounding error, as `(B + 1)·2^-53`
theorem lit_27315 : Approx (lit 27315 (-2)) (27315 / 100) ((274 + 1) / 2 ^ 53) 274 :=
  .lit (by rw [pow10_eq]; norm_num) (by rw [abs_of_pos] <;> norm_num)

/-! ### decoding with preferences = conversion of decoding without -/

theorem claimStep_units (cfg : Config) (st : State) (i : Input) (m : Msg) (d : Nat) (iso : Option IsoName) :
    claimStep { cfg with units := [] } st i m d iso = claimStep cfg st i m d iso := rfl

theorem preOf_units (cfg : Config) (st : State) (i : Input) :
    preOf { cfg with units := [] } st i = preOf cfg st i := rfl

theorem emit_units (cfg : Config) (i : Input) (m : Msg) (iso1 : Option IsoName) :
    match emit { cfg with units := [] } i m iso1 with
    | .msg o0 =>
      (match applyUnits cfg.units o0.msg with
       | some m' => emit cfg i m iso1 = .msg { o0 with msg := m' }
       | none => emit cfg i m iso1 = .raised)
    | other => emit cfg i m iso1 = other := by
  rw [emit, emit, show L10.blocked { cfg with units := [] } i m = L10.blocked cfg i m from rfl]
  cases L10.blocked cfg i m with
  | true => rfl
  | false =>
    simp only [Bool.false_eq_true, if_false, show applyUnits [] m = some m from rfl, L10.outMsg]
    cases applyUnits cfg.units m <;> rfl

end N2k.Dec

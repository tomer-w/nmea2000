/- helper lemmas for Props/C15.lean: plain values survive the JSON view, what the encoder reads of a field, the dump
log of a history -/
import N2k.Lemmas.DecStep
namespace N2k.Json
open N2k N2k.Dec

/-! ### absent values, integers, finite floats and ASCII text survive the JSON view -/

theorem unview_view_none : unview (view .none) = .none := rfl
theorem unview_view_int (z : Int) : unview (view (.int z)) = .int z := rfl
theorem unview_view_flt (q : Rat) : unview (view (.flt q)) = .flt q := rfl
theorem unview_view_str (s : List Nat) : unview (view (.str s)) = .str s := rfl

/-! ### what the encoder reads of a field: `value`; for lookups, dates and times `raw` first and `value` only when `raw` is
`None` -/

theorem encValue_congr (env : Env) (f f' : Field) (k : EncKind)
    (h : match k with
      | .lookup _ | .date _ | .time _ _ _ => f'.raw = f.raw ∧ (f.raw = .none → f'.value = f.value)
      | _ => f'.value = f.value) :
    encValue env f' k = encValue env f k := by
  cases k
  case lookup | date | time =>
    obtain ⟨hr, hv⟩ := h
    simp only [encValue, hr]
    cases hf : f.raw with
    | none => simp only [hv hf]
    | _ => rfl
  case number | reserved | float =>
    simp only [encValue, show f'.value = f.value from h]
  case unsupported | unrecognised =>
    rfl

theorem run_dump (G : GenLayer) (cfg : Config) (st : State) (h : List Input) :
    (run G cfg st h).1.dump = st.dump ++ (run G cfg st h).2.flatMap (logged cfg) := by
  induction h generalizing st with
  | nil => simp [run]
  | cons i is ih => rw [run_cons, ih, step_dump, List.flatMap_cons, List.append_assoc]

end N2k.Json

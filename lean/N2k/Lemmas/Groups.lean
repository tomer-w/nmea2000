/- `groupsOf`: the groups hold exactly the definitions they were made from (`flatten_groupsOf`) and partition them
by PGN (`pgn_eq_iff_of_mem_groupsOf`); a list whose parts share no PGN is grouped part by part. -/
import N2k.Model.Spec
namespace N2k.Spec

/-- no group is empty and every definition in a group satisfies `P` -/
def AllIn (P : PgnDef → Prop) (gs : List (List PgnDef)) : Prop := ∀ g ∈ gs, g ≠ [] ∧ ∀ q ∈ g, P q

theorem allIn_insertGroup {P : PgnDef → Prop} {p : PgnDef} (hp : P p) {gs : List (List PgnDef)}
    (h : AllIn P gs) : AllIn P (insertGroup p gs) := by
  induction gs with
  | nil => exact List.forall_mem_singleton.2 ⟨List.cons_ne_nil _ _, List.forall_mem_singleton.2 hp⟩
  | cons g gs ih =>
    obtain ⟨⟨hne, hg⟩, hgs⟩ := List.forall_mem_cons.1 h
    obtain ⟨q, t, rfl⟩ := List.exists_cons_of_ne_nil hne
    rw [insertGroup]
    split
    · exact List.forall_mem_cons.2 ⟨⟨List.cons_ne_nil _ _, List.forall_mem_append.2 ⟨hg, List.forall_mem_singleton.2 hp⟩⟩, hgs⟩
    · exact List.forall_mem_cons.2 ⟨⟨hne, hg⟩, ih hgs⟩

theorem allIn_foldl {P : PgnDef → Prop} (ps : List PgnDef) (hp : ∀ p ∈ ps, P p) {gs : List (List PgnDef)}
    (h : AllIn P gs) : AllIn P (ps.foldl (fun acc p => insertGroup p acc) gs) := by
  induction ps generalizing gs with
  | nil => exact h
  | cons p ps ih =>
    rw [List.forall_mem_cons] at hp
    exact ih hp.2 (allIn_insertGroup hp.1 h)

theorem mem_of_mem_groupsOf {ps g : List PgnDef} {p : PgnDef} (hg : g ∈ groupsOf ps) (hp : p ∈ g) : p ∈ ps :=
  (allIn_foldl (P := (· ∈ ps)) ps (fun _ h => h) (gs := []) nofun g hg).2 p hp

/-- definitions of different groups differ in PGN, those of one group agree in it, and no group is empty -/
def Partitioned (gs : List (List PgnDef)) : Prop :=
  gs.Pairwise (fun g h => ∀ x ∈ g, ∀ y ∈ h, x.pgn ≠ y.pgn) ∧ ∀ g ∈ gs, g ≠ [] ∧ ∀ x ∈ g, ∀ y ∈ g, x.pgn = y.pgn

theorem partitioned_insertGroup (p : PgnDef) {gs : List (List PgnDef)} (h : Partitioned gs) :
    Partitioned (insertGroup p gs) := by
  induction gs with
  | nil =>
    exact ⟨List.pairwise_singleton _ _, List.forall_mem_singleton.2 ⟨List.cons_ne_nil _ _,
      fun x hx y hy => List.mem_singleton.1 hx ▸ List.mem_singleton.1 hy ▸ rfl⟩⟩
  | cons g gs ih =>
    obtain ⟨hg, hgs⟩ := List.pairwise_cons.1 h.1
    obtain ⟨⟨hne, hk⟩, hS⟩ := List.forall_mem_cons.1 h.2
    obtain ⟨q, t, rfl⟩ := List.exists_cons_of_ne_nil hne
    rw [insertGroup]
    split
    next e =>
      have hq : ∀ x ∈ q :: t ++ [p], x.pgn = q.pgn :=
        List.forall_mem_append.2 ⟨fun x hx => hk x hx q (List.mem_cons_self ..), List.forall_mem_singleton.2 e.symm⟩
      refine ⟨List.pairwise_cons.2 ⟨fun d hd x hx y hy => ?_, hgs⟩, List.forall_mem_cons.2
        ⟨⟨List.append_ne_nil_of_left_ne_nil hne _, fun x hx y hy => (hq x hx).trans (hq y hy).symm⟩, hS⟩⟩
      rw [hq x hx]
      exact hg d hd q (List.mem_cons_self ..) y hy
    next ne =>
      have hp : ∀ x ∈ q :: t, x.pgn ≠ p.pgn := fun x hx => hk x hx q (List.mem_cons_self ..) ▸ ne
      have hall := allIn_insertGroup hp (gs := gs) fun d hd => ⟨(hS d hd).1, fun y hy x hx => hg d hd x hx y hy⟩
      obtain ⟨hR, hS'⟩ := ih ⟨hgs, hS⟩
      exact ⟨List.pairwise_cons.2 ⟨fun d hd x hx y hy => (hall d hd).2 y hy x hx, hR⟩,
        List.forall_mem_cons.2 ⟨⟨hne, hk⟩, hS'⟩⟩

theorem partitioned_groupsOf (ps : List PgnDef) : Partitioned (groupsOf ps) :=
  List.foldlRecOn ps _ ⟨.nil, nofun⟩ fun _ h p _ => partitioned_insertGroup p h

/-- two definitions have the same PGN exactly when they are in the same group -/
theorem pgn_eq_iff_of_mem_groupsOf {ps g h : List PgnDef} (hg : g ∈ groupsOf ps) (hh : h ∈ groupsOf ps)
    {x y : PgnDef} (hx : x ∈ g) (hy : y ∈ h) : x.pgn = y.pgn ↔ g = h := by
  obtain ⟨hP, hS⟩ := partitioned_groupsOf ps
  refine ⟨?_, fun e => (hS g hg).2 x hx y (e ▸ hy)⟩
  exact List.Pairwise.forall_of_forall_of_flip (R := fun g h => ∀ x ∈ g, ∀ y ∈ h, x.pgn = y.pgn → g = h)
    (fun _ _ _ _ _ _ _ => rfl) (hP.imp fun d x hx y hy e => absurd e (d x hx y hy))
    (hP.imp fun d x hx y hy e => absurd e.symm (d y hy x hx)) hg hh x hx y hy

theorem flatten_insertGroup (p : PgnDef) (gs : List (List PgnDef)) :
    (insertGroup p gs).flatten.Perm (p :: gs.flatten) := by
  induction gs with
  | nil => exact .refl _
  | cons g gs ih =>
    cases g with
    | nil => exact .refl _
    | cons q t =>
      rw [insertGroup]
      split
      · rw [List.flatten_cons, List.flatten_cons, List.append_assoc]
        exact List.perm_middle
      · rw [List.flatten_cons, List.flatten_cons]
        exact (ih.append_left _).trans List.perm_middle

theorem flatten_foldl_insertGroup (ps : List PgnDef) (gs : List (List PgnDef)) :
    (ps.foldl (fun acc p => insertGroup p acc) gs).flatten.Perm (gs.flatten ++ ps) := by
  induction ps generalizing gs with
  | nil => exact (List.append_nil _).symm ▸ .refl _
  | cons p ps ih => exact (ih _).trans (((flatten_insertGroup p gs).append_right ps).trans List.perm_middle.symm)

theorem flatten_groupsOf (ps : List PgnDef) : (groupsOf ps).flatten.Perm ps := flatten_foldl_insertGroup ps []

/-- groups of other PGNs are passed over -/
theorem insertGroup_append {p : PgnDef} {G : List (List PgnDef)} (hG : AllIn (·.pgn ≠ p.pgn) G)
    (H : List (List PgnDef)) : insertGroup p (G ++ H) = G ++ insertGroup p H := by
  induction G with
  | nil => rfl
  | cons g G ih =>
    obtain ⟨⟨hne, hg⟩, hGs⟩ := List.forall_mem_cons.1 hG
    obtain ⟨q, t, rfl⟩ := List.exists_cons_of_ne_nil hne
    rw [List.cons_append, insertGroup, if_neg (hg q (List.mem_cons_self ..)), ih hGs]
    rfl

theorem foldl_insertGroup_append (ps : List PgnDef) {G : List (List PgnDef)}
    (hG : AllIn (fun q => ∀ p ∈ ps, q.pgn ≠ p.pgn) G) (H : List (List PgnDef)) :
    ps.foldl (fun acc p => insertGroup p acc) (G ++ H) = G ++ ps.foldl (fun acc p => insertGroup p acc) H := by
  induction ps generalizing H with
  | nil => rfl
  | cons p ps ih =>
    rw [List.foldl_cons, List.foldl_cons,
      insertGroup_append fun g hg => ⟨(hG g hg).1, fun q hq => (hG g hg).2 q hq p (List.mem_cons_self ..)⟩,
      ih fun g hg => ⟨(hG g hg).1, fun q hq p hp => (hG g hg).2 q hq p (List.mem_cons_of_mem _ hp)⟩]

theorem groupsOf_append {a b : List PgnDef} (h : ∀ x ∈ a, ∀ y ∈ b, x.pgn ≠ y.pgn) :
    groupsOf (a ++ b) = groupsOf a ++ groupsOf b := by
  have := foldl_insertGroup_append b (allIn_foldl a h (gs := []) nofun) []
  rw [List.append_nil] at this
  rw [groupsOf, List.foldl_append]
  exact this

theorem groupsOf_flatten {cs : List (List PgnDef)}
    (h : cs.Pairwise fun a b => ∀ x ∈ a, ∀ y ∈ b, x.pgn ≠ y.pgn) : groupsOf cs.flatten = cs.flatMap groupsOf := by
  induction cs with
  | nil => rfl
  | cons c cs ih =>
    rw [List.pairwise_cons] at h
    rw [List.flatten_cons, List.flatMap_cons, ← ih h.2]
    refine groupsOf_append fun x hx y hy => ?_
    obtain ⟨d, hd, hy⟩ := List.mem_flatten.1 hy
    exact h.1 d hd x hx y hy

end N2k.Spec

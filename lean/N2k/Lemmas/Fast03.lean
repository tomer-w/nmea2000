/- The frames of one message as the encoder cuts them: `chunks`, `restFrames`, `frames`. -/
import N2k.Model.Fast
namespace N2k.Fast
variable {α : Type _} {n : Nat}

theorem chunks_nil (n : Nat) : chunks n ([] : List α) = [] := by
  rw [chunks]

theorem chunks_of_ne_nil (hn : 0 < n) {l : List α} (hl : l ≠ []) :
    chunks n l = l.take n :: chunks n (l.drop n) := by
  cases l with
  | nil => exact absurd rfl hl
  | cons x xs => rw [chunks, if_neg (by omega)]

theorem chunks_induction {motive : List α → Prop} (hn : 0 < n) (nil : motive [])
    (cons : ∀ l, l ≠ [] → motive (l.drop n) → motive l) (l : List α) : motive l := by
  induction h : l.length using Nat.strongRecOn generalizing l with
  | ind k ih =>
    by_cases hl : l = []
    · exact hl ▸ nil
    · have := List.length_pos_iff.2 hl
      exact cons l hl (ih _ (by rw [List.length_drop]; omega) _ rfl)

theorem chunks_getElem? (hn : 0 < n) (l : List α) (j : Nat) :
    (chunks n l)[j]? = if n * j < l.length then some ((l.drop (n * j)).take n) else none := by
  induction l using chunks_induction hn generalizing j with
  | nil => simp [chunks_nil]
  | cons l hl ih =>
    have := List.length_pos_iff.2 hl
    rw [chunks_of_ne_nil hn hl]
    cases j with
    | zero => simp [this]
    | succ j =>
      rw [List.getElem?_cons_succ, ih, List.length_drop, List.drop_drop, Nat.mul_succ, Nat.add_comm n]
      simp only [show n * j < l.length - n ↔ n * j + n < l.length by omega]

theorem chunks_length (hn : 0 < n) (l : List α) :
    (chunks n l).length = (l.length + (n - 1)) / n := by
  induction l using chunks_induction hn with
  | nil => rw [chunks_nil, List.length_nil, List.length_nil, Nat.zero_add, Nat.div_eq_of_lt (by omega)]
  | cons l hl ih =>
    have := List.length_pos_iff.2 hl
    rw [chunks_of_ne_nil hn hl, List.length_cons, ih, List.length_drop,
      show l.length + (n - 1) = l.length - 1 + n by omega, Nat.add_div_right _ hn]
    by_cases hle : n ≤ l.length
    · rw [show l.length - n + (n - 1) = l.length - 1 by omega]
    · rw [Nat.div_eq_of_lt (by omega), Nat.div_eq_of_lt (by omega)]

theorem chunks_mem_length (hn : 0 < n) (l : List α) : ∀ c ∈ chunks n l, c.length ≤ n := by
  intro c hc
  obtain ⟨j, hj⟩ := List.getElem?_of_mem hc
  rw [chunks_getElem? hn] at hj
  split at hj
  · cases hj
    rw [List.length_take]
    exact Nat.min_le_left ..
  · cases hj

theorem chunks_eq_full_append_last (hn : 0 < n) {l : List α} (hl : l ≠ []) :
    ∃ init last, chunks n l = init ++ [last] ∧ (∀ c ∈ init, c.length = n) ∧
      0 < last.length ∧ last.length ≤ n ∧ init.flatten ++ last = l := by
  induction l using chunks_induction hn with
  | nil => exact absurd rfl hl
  | cons l _ ih =>
    have := List.length_pos_iff.2 hl
    rw [chunks_of_ne_nil hn hl]
    by_cases hd : l.drop n = []
    · have hle := List.drop_eq_nil_iff.1 hd
      exact ⟨[], l, by rw [hd, chunks_nil, List.take_of_length_le hle]; rfl, nofun, this, hle, rfl⟩
    · obtain ⟨init, last, e, hfull, h1, h2, hfl⟩ := ih hd
      refine ⟨l.take n :: init, last, by rw [e]; rfl, ?_, h1, h2, ?_⟩
      · have : n < l.length := Nat.lt_of_not_le (mt List.drop_eq_nil_iff.2 hd)
        exact List.forall_mem_cons.2 ⟨by rw [List.length_take]; omega, hfull⟩
      · rw [List.flatten_cons, List.append_assoc, hfl, List.take_append_drop]

theorem length_flatten_of_full {cs : List (List α)} (h : ∀ c ∈ cs, c.length = n) :
    cs.flatten.length = n * cs.length := by
  induction cs with
  | nil => rfl
  | cons c cs ih =>
    rw [List.forall_mem_cons] at h
    rw [List.flatten_cons, List.length_append, h.1, ih h.2, List.length_cons, Nat.mul_succ, Nat.add_comm]

theorem seq_of_byte (seq i : Nat) (hs : seq < 8) (hi : i < 32) : (seq * 32 + i) / 32 % 8 = seq := by
  rw [Nat.mul_comm, Nat.mul_add_div (by decide), Nat.div_eq_of_lt hi, Nat.add_zero, Nat.mod_eq_of_lt hs]

theorem fc_of_byte (seq i : Nat) (hi : i < 32) : (seq * 32 + i) % 32 = i := by
  rw [Nat.mul_comm, Nat.mul_add_mod, Nat.mod_eq_of_lt hi]

theorem restFrames_getElem? (seq : Nat) (cs : List Bytes) (i j : Nat) :
    (restFrames seq i cs)[j]? = cs[j]?.map (fun c => (seq * 32 + (i + j)) :: c) := by
  induction cs generalizing i j with
  | nil => rfl
  | cons c cs ih =>
    cases j with
    | zero => rfl
    | succ j => rw [restFrames, List.getElem?_cons_succ, ih, List.getElem?_cons_succ, Nat.add_right_comm, Nat.add_assoc]

theorem mem_restFrames {seq i : Nat} {cs : List Bytes} {f : Bytes} (h : f ∈ restFrames seq i cs) :
    ∃ j c, f = (seq * 32 + (i + j)) :: c ∧ j < cs.length ∧ c ∈ cs := by
  obtain ⟨j, hj⟩ := List.getElem?_of_mem h
  rw [restFrames_getElem?, Option.map_eq_some_iff] at hj
  obtain ⟨c, hc, rfl⟩ := hj
  exact ⟨j, c, rfl, (List.getElem?_eq_some_iff.1 hc).1, List.mem_of_getElem? hc⟩

theorem restFrames_tail (seq i : Nat) (cs : List Bytes) : (restFrames seq i cs).map List.tail = cs := by
  induction cs generalizing i with
  | nil => rfl
  | cons c cs ih =>
    rw [restFrames, List.map_cons, ih]
    rfl

theorem L04.restFrames_length (seq i : Nat) (ds : List Bytes) :
    (restFrames seq i ds).length = ds.length := by
  rw [← List.length_map List.tail, restFrames_tail]

theorem restFrames_append (seq i : Nat) (a b : List Bytes) :
    restFrames seq i (a ++ b) = restFrames seq i a ++ restFrames seq (i + a.length) b := by
  induction a generalizing i with
  | nil => rfl
  | cons c cs ih =>
    rw [List.cons_append, restFrames, ih, List.length_cons, Nat.add_right_comm, Nat.add_assoc]
    rfl

theorem frames_mem_length (seq : Nat) (P : Bytes) : ∀ f ∈ frames seq P, f.length ≤ 8 := by
  intro f hf
  rcases List.mem_cons.1 hf with rfl | hf
  · simp only [List.length_cons, List.length_take]
    omega
  · obtain ⟨_, c, rfl, _, hc⟩ := mem_restFrames hf
    exact Nat.succ_le_succ (chunks_mem_length (by decide) _ c hc)

theorem frames_getElem?_succ (seq : Nat) (P : Bytes) (j : Nat) :
    (frames seq P)[j + 1]? =
      if 6 + 7 * j < P.length then some ((seq * 32 + (j + 1)) :: (P.drop (6 + 7 * j)).take 7)
      else none := by
  rw [frames, List.getElem?_cons_succ, restFrames_getElem?, chunks_getElem? (by omega),
    List.length_drop, List.drop_drop, Nat.add_comm 1]
  simp only [show 7 * j < P.length - 6 ↔ 6 + 7 * j < P.length by omega]
  split <;> rfl

theorem frames_length (seq : Nat) (P : Bytes) :
    (frames seq P).length = 1 + (P.length - 6 + 6) / 7 := by
  rw [frames, List.length_cons, L04.restFrames_length, chunks_length (by omega), List.length_drop]
  omega

end N2k.Fast

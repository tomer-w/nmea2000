/- helper lemmas for Props/C11.lean: the source map as a finite map (`lookupSrc` of `setSrc`), the numbers of an
identity as bits of the NAME, what an address claim leaves in the source map (`claimId_claim`, `lookupSrc_store_claim`), and what a returned
message was made from (`step_msg`) -/
import N2k.Lemmas.DecStep
namespace N2k.Dec

/-! ### the source map is a finite map: `lookupSrc` of `setSrc` -/

theorem lookupSrc_filter_ne (s : List (Nat × IsoName)) (a b : Nat) (h : b ≠ a) :
    lookupSrc (s.filter (·.1 ≠ a)) b = lookupSrc s b := by
  induction s with
  | nil => rfl
  | cons p rest ih =>
    obtain ⟨c, n⟩ := p
    by_cases hc : c = a
    · have hcb : c ≠ b := fun e => h (e.symm.trans hc)
      rw [List.filter_cons_of_neg (by simp [hc]), ih]
      simp [lookupSrc, hcb]
    · rw [List.filter_cons_of_pos (by simp [hc])]
      simp only [lookupSrc, ih]

theorem lookupSrc_setSrc_self (s : List (Nat × IsoName)) (a : Nat) (n : IsoName) :
    lookupSrc (setSrc s a n) a = some n := by
  rw [setSrc, lookupSrc, if_pos rfl]

theorem lookupSrc_setSrc_ne (s : List (Nat × IsoName)) (a b : Nat) (n : IsoName) (h : b ≠ a) :
    lookupSrc (setSrc s a n) b = lookupSrc s b := by
  rw [setSrc, lookupSrc, if_neg (Ne.symm h), lookupSrc_filter_ne s a b h]

theorem mkIsoName_bits {m : Msg} {name : Nat} {n : IsoName} (h : mkIsoName m name = some n) :
    n.name = name ∧ n.uniqueNumber = ((name % 2097152 : Nat) : Int) ∧
    n.deviceInstance = ((name / 4294967296 % 256 : Nat) : Int) ∧
    n.systemInstance = ((name / 72057594037927936 % 16 : Nat) : Int) := by
  unfold mkIsoName at h
  simp only [Option.bind_eq_bind, Option.pure_def, Option.bind_eq_some_iff] at h
  obtain ⟨_, _, _, _, _, _, _, _, _, _, _, _, _, _, _, _, _, _, _, _, h⟩ := h
  cases h
  exact ⟨rfl, rfl, rfl, rfl⟩

/-! ### what an address claim leaves in the source map -/

theorem lookupSrc_store_ne (s : List (Nat × IsoName)) (a b : Nat) (new : Option IsoName) (h : b ≠ a) :
    lookupSrc (store s a new) b = lookupSrc s b := by
  cases new with
  | none => rfl
  | some n => exact lookupSrc_setSrc_ne s a b n h

/-- a claim gives the message an identity with the claim's NAME: the stored one if it has that NAME (nothing is
stored then), else the one built from the message, which is stored -/
theorem claimId_claim {l : Option IsoName} {d : Nat} {m : Msg} {iso iso1 new : Option IsoName}
    (hm : m.pgn = isoClaimPgn) (h : claimId l m d iso = some (iso1, new)) :
    ∃ n, iso1 = some n ∧ n.name = d ∧
      ((new = none ∧ l = some n) ∨ (mkIsoName m d = some n ∧ new = some n)) := by
  unfold claimId at h
  rw [if_pos hm] at h
  by_cases ho : ∃ old, l = some old ∧ old.name = d
  · obtain ⟨old, rfl, ho⟩ := ho
    dsimp only at h
    rw [if_pos ho] at h
    cases h
    exact ⟨old, rfl, ho, Or.inl ⟨rfl, rfl⟩⟩
  · have h : (mkIsoName m d).map (fun n => (some n, some n)) = some (iso1, new) := by
      split at h
      · rwa [if_neg (fun e => ho ⟨_, rfl, e⟩)] at h
      · exact h
    obtain ⟨n, hn, he⟩ := Option.map_eq_some_iff.1 h
    cases he
    exact ⟨n, rfl, (mkIsoName_bits hn).1, Or.inr ⟨hn, rfl⟩⟩

theorem lookupSrc_store_claim {s : List (Nat × IsoName)} {a d : Nat} {m : Msg} {iso iso1 new : Option IsoName}
    (hm : m.pgn = isoClaimPgn) (h : claimId (lookupSrc s a) m d iso = some (iso1, new)) :
    lookupSrc (store s a new) a = iso1 := by
  obtain ⟨n, rfl, _, ⟨rfl, hl⟩ | ⟨_, rfl⟩⟩ := claimId_claim hm h
  · exact hl
  · exact lookupSrc_setSrc_self s a n

theorem step_msg {G : GenLayer} {cfg : Config} {st : State} {i : Input} {o : OutMsg}
    (h : (step G cfg st i).2 = .msg o) :
    ∃ iso p m m' iso1 new, preOf cfg st i = some iso ∧ G.decode i.pgn (leNat p) = some (.ok m) ∧
      claimId (lookupSrc st.sources i.src) m (leNat p % 18446744073709551616) iso = some (iso1, new) ∧
      (step G cfg st i).1.sources = store st.sources i.src new ∧
      applyUnits cfg.units m = some m' ∧ o = L10.outMsg cfg i m m' iso1 := by
  rw [step_out] at h
  rw [step_sources]
  rcases core_cases G cfg st i with ⟨_, b, hb⟩ | ⟨iso, p, m, iso1, new, hp, _, hd, hcl, hc⟩
  · rw [hb] at h
    cases b <;> cases h
  · rw [hc] at h ⊢
    obtain ⟨_, m', hu, ho⟩ := emit_msg h
    exact ⟨iso, p, m, m', iso1, new, hp, hd, hcl, rfl, hu, ho⟩

end N2k.Dec

/- The library root: every property file and every table theorem, so that a bare `lake build` checks the whole development
(the helper lemmas and the models are reached through them; the driver under `N2k/Driver` is built by the checks). -/
import N2k.Props.C01
import N2k.Props.C01Float
import N2k.Props.C02
import N2k.Props.C03
import N2k.Props.C04
import N2k.Props.C05
import N2k.Props.C06
import N2k.Props.C06Msg
import N2k.Props.C06Yd
import N2k.Props.C07
import N2k.Props.C07Fast
import N2k.Props.C08
import N2k.Props.C09
import N2k.Props.C09Msg
import N2k.Props.C10
import N2k.Props.C11
import N2k.Props.C12
import N2k.Props.C13
import N2k.Props.C14
import N2k.Props.C15
import N2k.Props.C16
import N2k.Props.C17
import N2k.Props.C18
import N2k.Props.C19
import N2k.Props.C20
import N2k.Tables.All
